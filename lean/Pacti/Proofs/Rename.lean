import Pacti.Model.PolyAlg
import Pacti.Proofs.PolyAlg
/-! Renaming a variable in a term is substitution in the valuation. -/

namespace PolyAlg

/-- the valuation that reads the new name where the old one was read -/
def substVal (v : Val) (s d : Var) : Val := Function.update v s (v d)

theorem renameTerm_holds (t : PTerm) (s d : Var) (hne : s ≠ d) (v : Val) :
    (renameTerm t s d).holds v ↔ t.holds (substVal v s d) := by
  unfold substVal
  fun_cases renameTerm t s d
  case case1 => exact absurd ‹_› hne
  case case2 =>
    unfold PTerm.holds PTerm.mk' PTerm.coeff
    -- the coefficient of `s` goes to `d`: the value at the valuation that reads `d` where `s` was read
    rw [evalL_normC, evalL_append, ← evalL_filter_ne_add, evalL, evalL, add_zero]
  case case3 hc => exact (PTerm.holds_update_of_not_mem (mt (t.containsVar_iff s).mpr hc) v _).symm

theorem renameTerm_vars (t : PTerm) (s d : Var) (hne : s ≠ d) (x : Var) (hx : x ∈ (renameTerm t s d).vars) :
    (x ∈ t.vars ∧ x ≠ s) ∨ (x = d ∧ s ∈ t.vars) := by
  revert hx
  fun_cases renameTerm t s d <;> intro hx
  case case1 => exact absurd ‹_› hne
  case case2 hc _ =>
    unfold PTerm.vars PTerm.mk' at hx
    have := mem_varsL_normC hx
    simp only [varsL, List.map_append, List.map_cons, List.map_nil, List.mem_append, List.mem_map, List.mem_filter, bne_iff_ne, ne_eq,
      List.mem_singleton] at this
    rcases this with ⟨p, ⟨hp, hps⟩, rfl⟩ | h
    · exact Or.inl ⟨List.mem_map_of_mem hp, hps⟩
    · exact Or.inr ⟨h, (t.containsVar_iff s).mp hc⟩
  case case3 hc => exact Or.inl ⟨hx, fun e => hc ((t.containsVar_iff s).mpr (e ▸ hx))⟩

theorem holds_substVal_absent (l : TL) (s d : Var) (v : Val) (h : ∀ t ∈ l, s ∉ t.vars) :
    TL.holds l (substVal v s d) ↔ TL.holds l v := by
  exact forall₂_congr fun t ht => PTerm.holds_update_of_not_mem (h t ht) v _

end PolyAlg
