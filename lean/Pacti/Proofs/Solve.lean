import Pacti.Proofs.Expr
import Mathlib.Algebra.BigOperators.Group.Finset.Basic
import Mathlib.Algebra.BigOperators.Ring.Finset
/-! The solve engine (`Elim.solveRows`, exact Gauss–Jordan) returns solutions that are IMPLIED by the rows: every
    solved equation `u_k = s_k` is a linear combination of the original rows.  Proved through the invariant "every
    working row lies in the span of the original rows" and the final identity test — the elimination itself is not
    trusted. -/

open Finset BigOperators

namespace Elim

/-- value of a working row read as `Σ ucₖ·uₖ + rest − c` -/
def rowVal (U : List Var) (r : WRow) (v : Val) : Rat := evalL (List.zip U r.1) v + evalL r.2.1 v - r.2.2

/-- invariant of one working row: right width, in the span of the original rows `R`, no unknown left in the rest part -/
structure RowInSpan (U : List Var) (R : TL) (r : WRow) : Prop where
  len : r.1.length = U.length
  span : ∃ m : ℕ → ℚ, ∀ v, rowVal U r v = ∑ i ∈ range R.length, m i * expr (R.getD i default) v
  free : ∀ u ∈ U, coeffOf u r.2.1 = 0

theorem evalL_zip_map_div (U : List Var) (a : List Rat) (p : Rat) (v : Val) :
    evalL (List.zip U (a.map (· / p))) v = evalL (List.zip U a) v / p := by
  induction U generalizing a with
  | nil => simp [evalL]
  | cons u U ih =>
    cases a with
    | nil => simp [evalL]
    | cons x a => simp only [List.map_cons, List.zip_cons_cons, evalL, ih]; ring

theorem evalL_zip_zipWith (f : Rat) (v : Val) (U : List Var) (a b : List Rat) (h : a.length = b.length) :
    evalL (List.zip U (List.zipWith (fun x y => x - f * y) a b)) v = evalL (List.zip U a) v - f * evalL (List.zip U b) v := by
  induction U generalizing a b with
  | nil => simp [evalL]
  | cons u U ih =>
    cases a with
    | nil =>
      cases b with
      | nil => simp [evalL]
      | cons y b => simp at h
    | cons x a =>
      cases b with
      | nil => simp at h
      | cons y b =>
        simp only [List.zipWith_cons_cons, List.zip_cons_cons, evalL, ih a b (Nat.succ.inj h)]
        ring

theorem rowVal_scale (U : List Var) (r : WRow) (p : Rat) (v : Val) :
    rowVal U (r.1.map (· / p), scaleL (1 / p) r.2.1, r.2.2 / p) v = rowVal U r v / p := by
  unfold rowVal
  simp only [evalL_zip_map_div, evalL_scaleL]
  ring

theorem rowVal_sub (U : List Var) (r pr : WRow) (f : Rat) (v : Val) (h : r.1.length = pr.1.length) :
    rowVal U (List.zipWith (fun a b => a - f * b) r.1 pr.1, addL r.2.1 (scaleL (-f) pr.2.1), r.2.2 - f * pr.2.2) v
      = rowVal U r v - f * rowVal U pr v := by
  unfold rowVal
  simp only [evalL_zip_zipWith f v U r.1 pr.1 h, evalL_addL, evalL_scaleL]
  ring

theorem getElem!_mem {α} [Inhabited α] {l : List α} {i : Nat} (h : i < l.length) : l[i]! ∈ l := by
  rw [getElem!_pos l i h]
  exact List.getElem_mem h

theorem RowInSpan.scale {U : List Var} {R : TL} {r : WRow} (h : RowInSpan U R r) (p : Rat) :
    RowInSpan U R (r.1.map (· / p), scaleL (1 / p) r.2.1, r.2.2 / p) := by
  obtain ⟨m, hm⟩ := h.span
  refine { len := ?_, span := ⟨fun i => m i / p, fun v => ?_⟩, free := fun u hu => ?_ }
  · rw [List.length_map]
    exact h.len
  · rw [rowVal_scale, hm v, div_eq_mul_inv, Finset.sum_mul]
    apply Finset.sum_congr rfl
    intro i _
    ring
  · show coeffOf u (scaleL (1 / p) r.2.1) = 0
    rw [coeffOf_scaleL, h.free u hu, mul_zero]

theorem RowInSpan.sub {U : List Var} {R : TL} {r pr : WRow} (h : RowInSpan U R r) (hp : RowInSpan U R pr) (f : Rat) :
    RowInSpan U R (List.zipWith (fun a b => a - f * b) r.1 pr.1, addL r.2.1 (scaleL (-f) pr.2.1), r.2.2 - f * pr.2.2) := by
  obtain ⟨m, hm⟩ := h.span
  obtain ⟨mp, hmp⟩ := hp.span
  have hl : r.1.length = pr.1.length := h.len.trans hp.len.symm
  refine { len := ?_, span := ⟨fun i => m i - f * mp i, fun v => ?_⟩, free := fun u hu => ?_ }
  · rw [List.length_zipWith, ← hl, Nat.min_self]
    exact h.len
  · rw [rowVal_sub U r pr f v hl, hm v, hmp v, Finset.mul_sum, ← Finset.sum_sub_distrib]
    apply Finset.sum_congr rfl
    intro i _
    ring
  · show coeffOf u (addL r.2.1 (scaleL (-f) pr.2.1)) = 0
    rw [coeffOf_addL, coeffOf_scaleL, h.free u hu, hp.free u hu, mul_zero, add_zero]

structure GJInv (U : List Var) (R : TL) (m : List WRow) : Prop where
  len : m.length = U.length
  rows : ∀ r ∈ m, RowInSpan U R r

theorem gjStep_inv {U : List Var} {R : TL} {k : Nat} (hk : k < U.length) {m m2 : List WRow} (hinv : GJInv U R m)
    (h : gjStep k m = some m2) : GJInv U R m2 := by
  revert h
  fun_cases gjStep k m
  · nofun
  rename_i pi hfind prow m1 _ _
  rintro ⟨⟩
  have hpi : pi < m.length := by
    have := List.mem_of_find?_eq_some hfind
    simpa using this
  have hkm : k < m.length := by rw [hinv.len]; exact hk
  have hpm : RowInSpan U R prow := hinv.rows _ (getElem!_mem hpi)
  -- rows of m1 are rows of m
  have hm1 : ∀ r ∈ m1, r ∈ m := by
    intro r hr
    rcases List.mem_or_eq_of_mem_set hr with h1 | h1
    · rcases List.mem_or_eq_of_mem_set h1 with h2 | h2
      · exact h2
      · rw [h2]
        exact getElem!_mem hkm
    · rw [h1]
      exact getElem!_mem hpi
  constructor
  · rw [List.length_mapIdx, List.length_set, List.length_set, hinv.len]
  · intro r hr
    rw [List.mem_mapIdx] at hr
    obtain ⟨i, hi, rfl⟩ := hr
    have hrow := hinv.rows _ (hm1 _ (List.getElem_mem hi))
    split
    · exact hpm.scale _        -- the normalised pivot row
    · dsimp only
      split
      · exact hrow
      · exact hrow.sub (hpm.scale _) _

theorem gjGo_inv {U : List Var} {R : TL} {fuel k : Nat} {m m' : List WRow} (hinv : GJInv U R m)
    (h : gjGo U.length fuel k m = some m') : GJInv U R m' := by
  revert h
  fun_induction gjGo U.length fuel k m
  case case3 => nofun
  case case4 hk _ hs ih => exact ih (gjStep_inv (by omega) hinv hs)
  all_goals
    rintro ⟨⟩
    exact hinv

theorem coeffOf_filter_ne (l : Lin) (x u : Var) (h : x ≠ u) : coeffOf x (l.filter (fun q => q.1 != u)) = coeffOf x l := by
  rw [← evalL_indVal, evalL_filter_ne, evalL_indVal, indVal_apply, if_neg (Ne.symm h), mul_zero, sub_zero]

/-- splitting a linear form into its part on the (distinct) unknowns and the rest -/
theorem evalL_zip_coeffs {U : List Var} (hU : U.Nodup) (l : Lin) (v : Val) :
    evalL (List.zip U (U.map fun u => coeffOf u l)) v + evalL (l.filter fun p => !decide (p.1 ∈ U)) v = evalL l v := by
  induction U generalizing l with
  | nil => simp [evalL]
  | cons u U ih =>
    have hnd := List.nodup_cons.mp hU
    have hmap : (U.map fun x => coeffOf x (l.filter fun q => q.1 != u)) = U.map fun x => coeffOf x l := by
      apply List.map_congr_left
      intro x hx
      exact coeffOf_filter_ne l x u (fun e => hnd.1 (e ▸ hx))
    have hfil : (l.filter fun q => q.1 != u).filter (fun p => !decide (p.1 ∈ U)) = l.filter fun p => !decide (p.1 ∈ u :: U) := by
      rw [List.filter_filter]
      apply List.filter_congr
      intro p _
      by_cases h1 : p.1 = u <;> by_cases h2 : p.1 ∈ U <;> simp [h1, h2]
    have := ih hnd.2 (l.filter fun q => q.1 != u)
    rw [hmap, hfil, evalL_filter_ne] at this
    simp only [List.map_cons, List.zip_cons_cons, evalL]
    linarith

theorem evalL_zip_zero (v : Val) : ∀ (U : List Var) (cs : List Rat), (∀ c ∈ cs, c = 0) → evalL (List.zip U cs) v = 0
  | [], _, _ => rfl
  | _ :: _, [], _ => rfl
  | u :: U, c :: cs, h => by
    rw [List.zip_cons_cons, evalL, h c List.mem_cons_self, evalL_zip_zero v U cs fun c hc => h c (List.mem_cons_of_mem _ hc)]
    simp

theorem evalL_zip_unit {U : List Var} {k : Nat} (hk : k < U.length) (v : Val) :
    evalL (List.zip U (unitVec U.length k)) v = v (U[k]!) := by
  induction U generalizing k with
  | nil => cases hk
  | cons u U ih =>
    unfold unitVec
    rw [List.length_cons, List.range_succ_eq_map, List.map_cons, List.map_map, List.zip_cons_cons, evalL]
    cases k with
    | zero =>
      rw [evalL_zip_zero v _ _ (by simp), if_pos rfl, one_mul, add_zero]
      rfl
    | succ k =>
      have : (List.range U.length).map ((fun j => if j = k + 1 then (1 : Rat) else 0) ∘ Nat.succ) = unitVec U.length k :=
        List.map_congr_left fun j _ => by simp
      rw [this, ih (Nat.lt_of_succ_lt_succ hk), if_neg (Nat.succ_ne_zero k).symm, zero_mul, zero_add]
      rfl

theorem initRows_inv {rows : TL} {U : List Var} (hU : U.Nodup) (hlen : rows.length = U.length) :
    GJInv U rows (rows.map fun r => (U.map fun u => r.coeff u, r.coeffs.filter (fun p => !decide (p.1 ∈ U)), r.const)) := by
  constructor
  · simp [hlen]
  · intro r hr
    obtain ⟨Ri, hRi, rfl⟩ := List.mem_map.mp hr
    obtain ⟨i, hi, hget⟩ := List.mem_iff_getElem.mp hRi
    refine { len := by simp, span := ⟨fun j => if j = i then 1 else 0, fun v => ?_⟩, free := ?_ }
    · have hsum : ∑ j ∈ range rows.length, (if j = i then (1 : Rat) else 0) * expr (rows.getD j default) v = expr Ri v := by
        rw [Finset.sum_eq_single i (fun j _ hji => by rw [if_neg hji, zero_mul])
          (fun h => absurd (Finset.mem_range.mpr hi) h), if_pos rfl, one_mul, ← List.getElem_eq_getD (h := hi), hget]
      rw [hsum]
      unfold rowVal expr PTerm.coeff
      simp only
      have := evalL_zip_coeffs hU Ri.coeffs v
      linarith
    · refine fun u hu => coeffOf_eq_zero_of_not_mem _ _ fun hm => ?_
      obtain ⟨p, hp, rfl⟩ := List.mem_map.mp hm
      exact absurd hu (by simpa using (List.mem_filter.mp hp).2)

/-- what a successful solve guarantees: the system is square, and each solution `u_k = s_k` is a linear combination of the
    original rows; the solutions do not mention any unknown -/
theorem solveRows_spec (rows : TL) (U : List Var) (hU : U.Nodup) (sols : List (Var × PTerm)) (h : solveRows rows U = some sols) :
    rows.length = U.length ∧
    ∃ (s : ℕ → PTerm) (M : ℕ → ℕ → ℚ),
      sols = (List.range U.length).map (fun k => (U[k]!, s k)) ∧
      ∀ k < U.length,
        (∀ v, v (U[k]!) - expr (s k) v = ∑ i ∈ range rows.length, M k i * expr (rows.getD i default) v) ∧
        (∀ u ∈ U, (s k).coeff u = 0) := by
  revert h
  fun_cases solveRows rows U
  case case3 hlen _ _ m hgo hcheck =>
    rintro ⟨⟩
    have hlen' : rows.length = U.length := by simpa using hlen
    have hinv := gjGo_inv (initRows_inv hU hlen') hgo
    refine ⟨hlen', fun k => PTerm.mk' (scaleL (-1) (m[k]!).2.1) (-(m[k]!).2.2), ?_⟩
    have hrow : ∀ k < U.length, RowInSpan U rows (m[k]!) := fun k hk =>
      hinv.rows _ (getElem!_mem (hinv.len ▸ hk))
    have hunit : ∀ k < U.length, (m[k]!).1 = unitVec U.length k := by
      simpa only [List.all_eq_true, List.mem_range, beq_iff_eq] using hcheck
    choose! M hM using fun k (hk : k < U.length) => (hrow k hk).span
    refine ⟨M, rfl, fun k hk => ⟨fun v => ?_, fun u hu => ?_⟩⟩
    · have h1 := hM k hk v
      unfold rowVal at h1
      rw [hunit k hk, evalL_zip_unit hk v] at h1
      rw [← h1, expr_mk', evalL_scaleL]
      ring
    · rw [coeff_mk', coeffOf_scaleL, (hrow k hk).free u hu, mul_zero]
  all_goals nofun

end Elim
