import Pacti.Proofs.Solve
import Pacti.Proofs.KayMath
import Pacti.Proofs.Refine
/-! Soundness of tactic 1 (`_tactic_1` = `_get_kaykobad_context` + `solve_for_variables` + substitution).

    * the substitution loop subtracts, from the term, the combination `Σ_k a_k · (u_k − s_k)` of the solved equations;
    * each solved equation is a combination of the context rows (`solveRows_spec`), so the result differs from the
      term by `Σ_i λ_i · eᵢ` with `eᵢ ≤ 0` the context rows (`reduceWith_spec`);
    * the three Kaykobad tests give every `λ_i` the sign of the direction (`KayMath.kay_sign`).                    -/

open Finset BigOperators

namespace Elim

theorem sum_map_range (n : ℕ) (f : ℕ → ℚ) : ((List.range n).map f).sum = ∑ k ∈ range n, f k := by
  induction n with
  | zero => simp
  | succ n ih => rw [List.range_succ, List.map_append, List.sum_append, ih, sum_range_succ]; simp

theorem map_range_getElem! {α} [Inhabited α] (U : List α) : (List.range U.length).map (fun k => U[k]!) = U :=
  List.ext_getElem (by simp) fun i _ h2 => by simp [h2]

theorem getElem!_append_left {α} [Inhabited α] {l1 l2 : List α} {i : ℕ} (h : i < l1.length) : (l1 ++ l2)[i]! = l1[i]! := by
  have h' : i < (l1 ++ l2).length := by simp; omega
  rw [getElem!_pos (l1 ++ l2) i h', getElem!_pos l1 i h, List.getElem_append_left h]

theorem getElem!_append_length {α} [Inhabited α] (l1 : List α) (a : α) : (l1 ++ [a])[l1.length]! = a := by
  simp

theorem getElem!_map_range {α} [Inhabited α] {f : ℕ → α} {n j : ℕ} (hj : j < n) : ((List.range n).map f)[j]! = f j := by
  simp [hj]

/-- a combination of combinations is a combination -/
theorem sum_mul_sum_comm (n m : ℕ) (a e : ℕ → ℚ) (M : ℕ → ℕ → ℚ) :
    ∑ k ∈ range n, a k * ∑ i ∈ range m, M k i * e i = ∑ i ∈ range m, (∑ k ∈ range n, a k * M k i) * e i := by
  simp only [mul_sum, sum_mul]
  rw [sum_comm]
  exact sum_congr rfl fun i _ => sum_congr rfl fun k _ => by ring

/-- `hfree` (no substituted term mentions a substituted variable) is why an earlier substitution leaves the
    coefficients of the later keys alone, so that every summand can be read off `t` itself -/
theorem expr_foldl_subst {L : List (Var × PTerm)} (t : PTerm) (hnd : (L.map (·.1)).Nodup)
    (hfree : ∀ p ∈ L, ∀ q ∈ L, p.2.coeff q.1 = 0) (v : Val) :
    expr (L.foldl (fun acc p => acc.subst p.1 p.2) t) v = expr t v + (L.map fun p => t.coeff p.1 * (expr p.2 v - v p.1)).sum := by
  induction L generalizing t with
  | nil => simp
  | cons p L ih =>
    simp only [List.map_cons, List.nodup_cons] at hnd
    simp only [List.foldl_cons, List.map_cons, List.sum_cons]
    rw [ih (t.subst p.1 p.2) hnd.2 fun a ha b hb => hfree a (List.mem_cons_of_mem _ ha) b (List.mem_cons_of_mem _ hb),
      expr_subst]
    have : (L.map fun q => (t.subst p.1 p.2).coeff q.1 * (expr q.2 v - v q.1)) = L.map fun q => t.coeff q.1 * (expr q.2 v - v q.1) := by
      apply List.map_congr_left
      intro q hq
      rw [coeff_subst, hfree p (List.mem_cons_self) q (List.mem_cons_of_mem _ hq)]
      have hne : p.1 ≠ q.1 := fun e => hnd.1 (e ▸ List.mem_map_of_mem hq)
      simp [hne]
    rw [this]
    ring

theorem coeff_foldl_subst (y : Var) {L : List (Var × PTerm)} (t : PTerm) (hfree : ∀ p ∈ L, p.2.coeff y = 0) :
    (L.foldl (fun acc p => acc.subst p.1 p.2) t).coeff y = if y ∈ L.map (·.1) then 0 else t.coeff y := by
  induction L generalizing t with
  | nil => simp
  | cons p L ih =>
    rw [List.foldl_cons, ih _ (fun q hq => hfree q (List.mem_cons_of_mem _ hq)), coeff_subst, hfree p List.mem_cons_self]
    show (if y ∈ L.map (·.1) then 0 else t.coeff y + t.coeff p.1 * (0 - if p.1 = y then 1 else 0))
      = if y ∈ (p :: L).map (·.1) then 0 else t.coeff y
    simp only [List.map_cons, List.mem_cons]
    -- `y = p.1`: the substitution cancels the coefficient; otherwise it leaves it alone
    by_cases hy : y = p.1
    · rw [if_pos (Or.inl hy), if_pos hy.symm, hy]
      split <;> ring
    · rw [if_neg (Ne.symm hy), sub_zero, mul_zero, add_zero]
      simp only [hy, false_or]

/-- how tactics 1 and 3 gain: the result is the term minus a combination of context rows whose multipliers have the
    sign of the direction -/
theorem gains_of_comb {refine : Bool} {H : TL} {t r : PTerm} {n : ℕ} {rows : ℕ → PTerm} {lam : ℕ → ℚ}
    (hH : ∀ i < n, rows i ∈ H) (hs : ∀ i < n, 0 ≤ tcOf refine * lam i)
    (he : ∀ v, expr r v = expr t v - ∑ i ∈ range n, lam i * expr (rows i) v) : Gains refine H t r := by
  intro v hv
  have : tcOf refine * (expr r v - expr t v) = ∑ i ∈ range n, (tcOf refine * lam i) * -(expr (rows i) v) := by
    rw [he, sub_sub_cancel_left, mul_neg, mul_sum, ← sum_neg_distrib]
    exact sum_congr rfl fun i _ => by ring
  rw [this]
  exact sum_nonneg fun i hi => mul_nonneg (hs i (mem_range.mp hi))
    (neg_nonneg.mpr ((holds_iff_expr _ v).mp (hv _ (hH i (mem_range.mp hi)))))

/-- an identity between expressions is an identity between coefficients -/
theorem coeff_of_expr_comb {r t : PTerm} {n : ℕ} {rows : ℕ → PTerm} {lam : ℕ → ℚ}
    (he : ∀ v, expr r v = expr t v - ∑ i ∈ range n, lam i * expr (rows i) v) (u : Var) :
    r.coeff u = t.coeff u - ∑ i ∈ range n, lam i * (rows i).coeff u := by
  have : ∀ i ∈ range n, lam i * (rows i).coeff u = lam i * expr (rows i) (indVal u) - lam i * expr (rows i) (fun _ => 0) :=
    fun i _ => by rw [coeff_eq_expr]; ring
  rw [sum_congr rfl this, sum_sub_distrib, coeff_eq_expr, coeff_eq_expr t, he, he]
  ring

/-- `solve_for_variables` + the substitution loop of `_context_reduction`, whatever rows they are given (tactics 1, 3
    and 5): the result is the term minus a combination of the rows, and no solved variable is left in it -/
theorem reduceWith_spec {t r : PTerm} {rows : TL} {F : List Var} (h : reduceWith t rows F = .ok (some r)) :
    ∃ lam : ℕ → ℚ,
      (∀ v, expr r v = expr t v - ∑ i ∈ range rows.length, lam i * expr (rows[i]!) v) ∧
      ∀ u ∈ Gen.list_intersection (TL.vars rows) F, r.coeff u = 0 := by
  revert h
  fun_cases reduceWith t rows F
  case case4 U _ hnd sols hsolve =>
    rintro ⟨⟩
    have hUnd : U.Nodup := by simpa using hnd
    obtain ⟨_, s, M, hsols, hspec⟩ := solveRows_spec rows U hUnd sols hsolve
    have hkeys : (sols.map (·.1)).Nodup := by
      rw [hsols, List.map_map, show ((·.1) ∘ fun k => (U[k]!, s k)) = fun k => U[k]! from rfl, map_range_getElem!]
      exact hUnd
    have hfree : ∀ p ∈ sols, ∀ q ∈ sols, p.2.coeff q.1 = 0 := by
      intro p hp q hq
      simp only [hsols, List.mem_map, List.mem_range] at hp hq
      obtain ⟨k, hk, rfl⟩ := hp
      obtain ⟨k', hk', rfl⟩ := hq
      exact (hspec k hk).2 _ (getElem!_mem hk')
    refine ⟨fun i => ∑ k ∈ range U.length, t.coeff U[k]! * M k i, fun v => ?_, fun u (hu : u ∈ U) => ?_⟩
    · have hk : ∀ k ∈ range U.length, t.coeff U[k]! * (expr (s k) v - v U[k]!)
          = -(t.coeff U[k]! * ∑ i ∈ range rows.length, M k i * expr (rows[i]!) v) := by
        intro k hk
        have := (hspec k (mem_range.mp hk)).1 v
        -- `solveRows_spec` writes the `i`-th row `rows.getD i default`, this file `rows[i]!`
        simp only [List.getD_eq_getElem?_getD, ← List.getElem!_eq_getElem?_getD] at this
        rw [← this]
        ring
      rw [expr_foldl_subst t hkeys hfree v, hsols, List.map_map, sum_map_range]
      simp only [Function.comp]
      rw [sum_congr rfl hk, sum_neg_distrib, sum_mul_sum_comm]
      ring
    · obtain ⟨k0, hk0, rfl⟩ := List.getElem_of_mem hu
      have hmem : (U[k0]!, s k0) ∈ sols := hsols ▸ List.mem_map.mpr ⟨k0, List.mem_range.mpr hk0, rfl⟩
      rw [← getElem!_pos U k0 hk0, coeff_foldl_subst _ _ fun p hp => hfree p hp _ hmem,
        if_pos (List.mem_map_of_mem (f := (·.1)) hmem)]
  all_goals nofun

/-- residual that row `ct`, chosen for position `i`, adds to the partial sum of position `j` -/
def kayRes (t ct : PTerm) (F : List Var) (i j : ℕ) : ℚ :=
  if j = i then 0 else sign (t.coeff F[j]!) * ct.coeff F[j]! * t.coeff F[i]! / ct.coeff F[i]!

section
variable {t : PTerm} {H : TL} {F other : List Var} {refine : Bool}

theorem kayRow_some {ct : PTerm} {i : ℕ} {ps res : List ℚ}
    (h : kayRow t ct F other refine i F[i]! ps = some res) :
    (∀ v ∈ F, ct.coeff v ≠ 0 → tcOf refine * sign (ct.coeff v) = sign (t.coeff v)) ∧
    ct.coeff F[i]! ≠ 0 ∧
    res = (List.range F.length).map (fun j => kayRes t ct F i j) ∧
    ∀ j < F.length, ps[j]! + res[j]! < Poly.rabs (t.coeff F[j]!) := by
  revert h
  fun_cases kayRow t ct F other refine i F[i]! ps
  -- the branch past all the guards, in the order of the code: `ct ≠ t`, `other`, signs, diagonal, residual sums
  case case6 _ _ hsign hdiag res' bad hbad =>
    intro h
    obtain rfl : res' = res := Option.some.inj h
    simp only [bad, List.any_eq_true, not_exists, not_and, Bool.and_eq_true, bne_iff_ne, ne_eq, List.mem_range,
      decide_eq_true_eq, not_le, Decidable.not_not, beq_iff_eq] at hsign hdiag hbad
    exact ⟨hsign, hdiag, List.map_congr_left fun j _ => by simp only [kayRes, beq_iff_eq], hbad⟩
  all_goals nofun

/-- invariant of the row-finding loop: `rows` are the rows found so far, `ps` the partial sums of their residuals.
    `bound` holds from the first row on only: `kayRow` tests `ps + res`, never `ps` alone. -/
structure KInv (t : PTerm) (H : TL) (F : List Var) (refine : Bool) (rows : TL) (ps : List ℚ) : Prop where
  sub : ∀ r ∈ rows, r ∈ H
  good : ∀ i < rows.length, (∀ v ∈ F, (rows[i]!).coeff v ≠ 0 → tcOf refine * sign ((rows[i]!).coeff v) = sign (t.coeff v)) ∧
      (rows[i]!).coeff F[i]! ≠ 0
  sums : ps = (List.range F.length).map fun j => ∑ i ∈ range rows.length, kayRes t (rows[i]!) F i j
  bound : 0 < rows.length → ∀ j < F.length, ∑ i ∈ range rows.length, kayRes t (rows[i]!) F i j < Poly.rabs (t.coeff F[j]!)

theorem KInv.init (t : PTerm) (H : TL) (F : List Var) (refine : Bool) :
    KInv t H F refine [] (List.replicate F.length 0) :=
  ⟨fun _ h => absurd h List.not_mem_nil, fun i h => absurd h (Nat.not_lt_zero i), by simp,
    fun h => absurd h (Nat.lt_irrefl 0)⟩

theorem KInv.step {c : PTerm} {rows : TL} {ps res : List ℚ}
    (hinv : KInv t H F refine rows ps) (hc : c ∈ H)
    (hrow : kayRow t c F other refine rows.length F[rows.length]! ps = some res) :
    KInv t H F refine (rows ++ [c]) (List.zipWith (· + ·) ps res) := by
  obtain ⟨hsign, hdiag, hres, hbound⟩ := kayRow_some hrow
  have hlen : (rows ++ [c]).length = rows.length + 1 := by simp
  -- the new row adds its residuals to every sum
  have hsucc : ∀ j, ∑ i ∈ range (rows ++ [c]).length, kayRes t ((rows ++ [c])[i]!) F i j
      = ∑ i ∈ range rows.length, kayRes t (rows[i]!) F i j + kayRes t c F rows.length j := by
    intro j
    rw [hlen, sum_range_succ, getElem!_append_length]
    congr 1
    exact sum_congr rfl fun i hi => by rw [getElem!_append_left (mem_range.mp hi)]
  refine { sub := ?_, good := ?_, sums := ?_, bound := ?_ }
  · intro r hr
    rcases List.mem_append.mp hr with hr | hr
    · exact hinv.sub r hr
    · exact List.mem_singleton.mp hr ▸ hc
  · intro i hi
    rcases Nat.lt_succ_iff_lt_or_eq.mp (hlen ▸ hi) with hlt | rfl
    · rw [getElem!_append_left hlt]
      exact hinv.good i hlt
    · rw [getElem!_append_length]
      exact ⟨hsign, hdiag⟩
  · rw [hinv.sums, hres, List.zipWith_map, List.zipWith_self]
    exact List.map_congr_left fun j _ => (hsucc j).symm
  · intro _ j hj
    have := hbound j hj
    rwa [hinv.sums, hres, getElem!_map_range hj, getElem!_map_range hj, ← hsucc j] at this

theorem kayLoop_inv {fuel : ℕ} {rows rows' : TL} {ps : List ℚ} {others o' : Bool} (hinv : KInv t H F refine rows ps) (hi : rows.length + fuel = F.length)
    (h : kayLoop t H F other refine rows.length fuel rows ps others = .ok (rows', o')) :
    rows'.length = F.length ∧ ∃ ps', KInv t H F refine rows' ps' := by
  generalize hl : rows.length = i at h hi
  revert h
  fun_induction kayLoop t H F other refine i fuel rows ps others
  case case1 _ _ ps _ =>
    rintro ⟨⟩
    exact ⟨hl.trans hi, ps, hinv⟩
  case case2 => omega  -- every row found already: impossible with fuel left
  case case3 => nofun
  case case4 hfind ih =>
    obtain ⟨c, hc, hfc⟩ := List.exists_of_findSome?_eq_some hfind
    simp only [Option.map_eq_some_iff, Prod.mk.injEq] at hfc
    obtain ⟨res', hrow, rfl, rfl⟩ := hfc
    subst hl
    exact ih (hinv.step (Gen.mem_list_diff.mp hc).1 hrow) (by simp) (by omega)

end

theorem sign_eq_sgn (q : ℚ) : sign q = KayMath.sgn q := rfl

/-- `_get_kaykobad_context` returns the variables of the term that are to be eliminated and one context row for each,
    chosen so that the three Kaykobad tests pass -/
theorem kaykobadContext_ok {t : PTerm} {H rows : TL} {xs F : List Var} {refine : Bool}
    (h : kaykobadContext t H xs refine = .ok (rows, F)) :
    F = Gen.list_intersection xs t.vars ∧ rows.length = F.length ∧ ∃ ps, KInv t H F refine rows ps := by
  revert h
  fun_cases kaykobadContext t H xs refine
  case case3 hloop _ =>
    intro h
    obtain ⟨rfl, rfl⟩ := Prod.mk.inj (Except.ok.inj h)
    exact ⟨rfl, kayLoop_inv (KInv.init t H _ refine) (Nat.zero_add _) hloop⟩
  all_goals nofun

/-- what a successful tactic 1 returns: no variable of the term that was to be eliminated is left, and the result is the
    term minus a combination `Σ λᵢ·eᵢ` of context rows whose multipliers all have the sign of the direction -/
theorem tactic1_spec {t : PTerm} {H : TL} {xs : List Var} {refine : Bool} {r : PTerm}
    (h : tactic1 t H xs refine = .ok (some r)) :
    (∀ u ∈ Gen.list_intersection xs t.vars, r.coeff u = 0) ∧
    ∃ (n : ℕ) (rows : TL) (lam : ℕ → ℚ),
      (∀ i < n, rows[i]! ∈ H) ∧ (∀ i < n, 0 < tcOf refine * lam i) ∧
      ∀ v, expr r v = expr t v - ∑ i ∈ range n, lam i * expr (rows[i]!) v := by
  unfold tactic1 at h
  split at h
  · cases h
  rename_i rows0 F hctx
  obtain ⟨hF, hn, ps, hsub, hgood, -, hbound⟩ := kaykobadContext_ok hctx
  obtain ⟨lam, hexpr, hzero⟩ := reduceWith_spec h
  rw [← hF]
  rw [hn] at hgood hbound hexpr
  -- every forbidden position is a solved variable
  have hFU : ∀ j < F.length, F[j]! ∈ Gen.list_intersection (TL.vars rows0) F := by
    intro j hj
    rw [Gen.mem_list_intersection, TL.mem_vars]
    exact ⟨⟨rows0[j]!, getElem!_mem (hn ▸ hj), coeffOf_ne_zero_mem _ _ (hgood j hj).2⟩, getElem!_mem hj⟩
  have hdiag : ∀ i < F.length, (rows0[i]!).coeff F[i]! ≠ 0 := fun i hi => (hgood i hi).2
  have hsign : ∀ i < F.length, ∀ j < F.length, (rows0[i]!).coeff F[j]! ≠ 0 →
      tcOf refine * KayMath.sgn ((rows0[i]!).coeff F[j]!) = KayMath.sgn (t.coeff F[j]!) :=
    fun i hi j hj hne => by rw [← sign_eq_sgn, ← sign_eq_sgn]; exact (hgood i hi).1 _ (getElem!_mem hj) hne
  have hres : ∀ j < F.length, ∑ i ∈ (range F.length).erase j,
      KayMath.sgn (t.coeff F[j]!) * (rows0[i]!).coeff F[j]! * t.coeff F[i]! / (rows0[i]!).coeff F[i]! < |t.coeff F[j]!| := by
    intro j hj
    have hb := hbound (by omega) j hj
    -- row `j` adds nothing to the sum of position `j`
    rw [Poly.rabs_eq_abs, ← sum_erase (range F.length) (a := j) (by simp [kayRes])] at hb
    refine lt_of_eq_of_lt (sum_congr rfl fun i hi => ?_) hb
    rw [kayRes, if_neg (ne_of_mem_erase hi).symm, sign_eq_sgn]
  have hsys : ∀ j < F.length, ∑ i ∈ range F.length, lam i * (rows0[i]!).coeff F[j]! = t.coeff F[j]! := by
    intro j hj
    have := coeff_of_expr_comb (rows := fun i => rows0[i]!) hexpr F[j]!
    rw [hzero _ (hFU j hj)] at this
    linarith
  have hsgn := KayMath.kay_sign F.length (fun i j => (rows0[i]!).coeff F[j]!) (fun j => t.coeff F[j]!) lam (tcOf refine)
    (tcOf_cases refine) hdiag hsign hres hsys
  refine ⟨fun u hu => ?_, F.length, rows0, lam, fun i hi => hsub _ (getElem!_mem (hn ▸ hi)), hsgn, hexpr⟩
  obtain ⟨j, hj, rfl⟩ := List.getElem_of_mem hu
  rw [← getElem!_pos F j hj]
  exact hzero _ (hFU j hj)

theorem tactic1_coeff_zero {t : PTerm} {H : TL} {xs : List Var} {refine : Bool} {r : PTerm}
    (h : tactic1 t H xs refine = .ok (some r)) : ∀ u ∈ Gen.list_intersection xs t.vars, r.coeff u = 0 :=
  (tactic1_spec h).1

theorem tactic1_gains {t : PTerm} {H : TL} {xs : List Var} {refine : Bool} {r : PTerm}
    (h : tactic1 t H xs refine = .ok (some r)) : Gains refine H t r := by
  obtain ⟨-, n, rows, lam, hsub, hsgn, hexpr⟩ := tactic1_spec h
  exact gains_of_comb (rows := fun i => rows[i]!) hsub (fun i hi => (hsgn i hi).le) hexpr

theorem tactic1_sound (t : PTerm) (H : TL) (xs : List Var) (refine : Bool) (r : PTerm)
    (h : tactic1 t H xs refine = .ok (some r)) :
    ∀ v, TL.holds H v → (if refine then (r.holds v → t.holds v) else (t.holds v → r.holds v)) :=
  (tactic1_gains h).sound

end Elim
