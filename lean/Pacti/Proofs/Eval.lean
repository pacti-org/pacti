import Pacti.Model.Poly
import Pacti.Proofs.Sem
import Pacti.Proofs.Lists
/-! Valuation-level lemmas on `Lin`/`PTerm`/`TL` (update of one variable, variables of `insertC`/`normC`, substitution
    of a constant, `TL.vars`, unions), then `evaluate` / `contains_behavior`. -/

theorem coeffOf_eq_zero_of_not_mem (x : Var) (l : Lin) (h : x ∉ varsL l) : coeffOf x l = 0 := by
  induction l with
  | nil => rfl
  | cons p l ih =>
    have hne : ¬ p.1 = x := fun e => h (e ▸ List.mem_cons_self)
    rw [coeffOf, if_neg hne, ih fun hx => h (List.mem_cons_of_mem _ hx)]

theorem coeffOf_ne_zero_mem (x : Var) (l : Lin) (h : coeffOf x l ≠ 0) : x ∈ varsL l := by
  by_contra hn
  exact h (coeffOf_eq_zero_of_not_mem x l hn)

theorem evalL_update (l : Lin) (v : Val) (x : Var) (a : Rat) :
    evalL l (Function.update v x a) = evalL l v + coeffOf x l * (a - v x) := by
  induction l with
  | nil => simp [evalL, coeffOf]
  | cons p l ih =>
    simp only [evalL, coeffOf, ih]
    by_cases h : p.1 = x
    · subst h
      simp only [Function.update_self, ↓reduceIte]
      ring
    · simp only [h, ↓reduceIte, Function.update_of_ne h]
      ring

theorem evalL_filter_ne_add (l : Lin) (x : Var) (v : Val) (a : Rat) :
    evalL (l.filter (fun p => p.1 != x)) v + coeffOf x l * a = evalL l (Function.update v x a) := by
  rw [evalL_filter_ne, evalL_update]
  ring

theorem evalL_update_of_not_mem {l : Lin} {x : Var} (h : x ∉ varsL l) (v : Val) (a : Rat) :
    evalL l (Function.update v x a) = evalL l v := by
  rw [evalL_update, coeffOf_eq_zero_of_not_mem x l h, zero_mul, add_zero]

/-- a linear form all of whose total coefficients vanish is zero: by `evalL_update` its value does not change when one
    variable is set to 0, so (induction on a list `xs` outside of which `w` vanishes) it is its value at 0 -/
theorem evalL_zero_of_coeffs (l : Lin) (v : Val) (h : ∀ x, coeffOf x l = 0) : evalL l v = 0 := by
  have key : ∀ (xs : List Var) (w : Val), (∀ x, x ∉ xs → w x = 0) → evalL l w = 0 := by
    intro xs
    induction xs with
    | nil =>
      intro w hw
      rw [show w = fun _ => 0 from funext fun x => hw x List.not_mem_nil, evalL_zero]
    | cons x xs ih =>
      intro w hw
      have := evalL_update l w x 0
      rw [h x, zero_mul, add_zero] at this
      rw [← this]
      refine ih _ fun y hy => ?_
      by_cases e : y = x
      · rw [e, Function.update_self]
      · rw [Function.update_of_ne e]
        exact hw y (by simp [e, hy])
  rw [evalL_congr l v (fun x => if x ∈ varsL l then v x else 0) fun x hx => (if_pos hx).symm]
  exact key (varsL l) _ fun x hx => if_neg hx

theorem PTerm.containsVar_iff (t : PTerm) (x : Var) : t.containsVar x = true ↔ x ∈ t.vars := by
  simp [PTerm.containsVar]

theorem PTerm.holds_update_of_not_mem {t : PTerm} {x : Var} (h : x ∉ t.vars) (v : Val) (a : Rat) :
    t.holds (Function.update v x a) ↔ t.holds v := by
  rw [PTerm.holds_def, PTerm.holds_def, evalL_update_of_not_mem h]

theorem mem_varsL_insertC {x y : Var} {c : Rat} {l : Lin} (h : y ∈ varsL (insertC x c l)) : y = x ∨ y ∈ varsL l := by
  obtain ⟨q, hq, rfl⟩ := List.mem_map.mp h
  exact (mem_insertC hq).imp_right fun hm => List.mem_map.mpr ⟨q, hm, rfl⟩

theorem mem_varsL_normC {y : Var} {l : Lin} (h : y ∈ varsL (normC l)) : y ∈ varsL l := by
  induction l with
  | nil => exact h
  | cons p l ih =>
    rw [normC_cons] at h
    rcases mem_varsL_insertC h with h' | h'
    · exact h' ▸ List.mem_cons_self
    · exact List.mem_cons_of_mem _ (ih h')

/-- substituting a variable by a constant `a` (the term `⟨[], -a⟩`) -/
theorem subst_const_holds (t : PTerm) (x : Var) (a : Rat) (v : Val) :
    (t.subst x ⟨[], -a⟩).holds v ↔ t.holds (Function.update v x a) := by
  unfold PTerm.subst
  split
  · unfold PTerm.holds PTerm.add PTerm.remove PTerm.scale PTerm.mk' PTerm.coeff
    simp only [scaleL, List.map_nil, normC, List.foldr_nil]
    -- `E + 0 ≤ c + k * -a ↔ E + k * a ≤ c`, and `E + k * a` is the value at the updated point
    rw [evalL_addL, evalL, add_zero, ← evalL_filter_ne_add, mul_neg, ← sub_eq_add_neg, le_sub_iff_add_le]
  · rename_i h
    exact (PTerm.holds_update_of_not_mem (mt (t.containsVar_iff x).mpr h) v a).symm

theorem subst_const_vars {t : PTerm} {x : Var} {a : Rat} {y : Var} (h : y ∈ (t.subst x ⟨[], -a⟩).vars) :
    y ∈ t.vars ∧ y ≠ x := by
  unfold PTerm.subst at h
  split at h
  · unfold PTerm.vars PTerm.add PTerm.remove PTerm.scale PTerm.mk' at h
    simp only [scaleL, List.map_nil, normC, List.foldr_nil, addL, List.append_nil] at h
    have := mem_varsL_normC h
    simp only [varsL, List.mem_map, List.mem_filter, bne_iff_ne, ne_eq] at this
    obtain ⟨p, ⟨hp, hne⟩, rfl⟩ := this
    exact ⟨List.mem_map_of_mem hp, hne⟩
  · rename_i hc
    exact ⟨h, fun e => hc ((t.containsVar_iff x).mpr (e ▸ h))⟩

/-- the valuation that reads `b` first (first binding wins) and `v` elsewhere -/
def override (v : Val) : List (Var × Rat) → Val
  | [] => v
  | p :: b => Function.update (override v b) p.1 p.2

theorem override_eq_valOf {v : Val} {b : List (Var × Rat)} {x : Var} (h : x ∈ b.map (·.1)) :
    override v b x = valOf b x := by
  induction b with
  | nil => cases h
  | cons p b ih =>
    rw [override, valOf, List.find?_cons]
    by_cases e : p.1 = x
    · rw [e, Function.update_self, beq_self_eq_true]
    · rw [Function.update_of_ne (Ne.symm e), beq_false_of_ne e, ih ((List.mem_cons.mp h).resolve_left (Ne.symm e))]
      rfl

theorem override_of_not_mem {b : List (Var × Rat)} {x : Var} (h : x ∉ b.map (·.1)) (v : Val) : override v b x = v x := by
  induction b with
  | nil => rfl
  | cons p b ih =>
    simp only [List.map_cons, List.mem_cons, not_or] at h
    simp only [override]
    rw [Function.update_of_ne h.1, ih h.2]

theorem evalTerm_cons (t : PTerm) (p : Var × Rat) (b : List (Var × Rat)) :
    Poly.evalTerm t (p :: b) = Poly.evalTerm (t.subst p.1 ⟨[], -p.2⟩) b := rfl

theorem evalTerm_holds (t : PTerm) (b : List (Var × Rat)) (v : Val) :
    (Poly.evalTerm t b).holds v ↔ t.holds (override v b) := by
  induction b generalizing t with
  | nil => simp [Poly.evalTerm, override]
  | cons p b ih =>
    rw [evalTerm_cons, ih, subst_const_holds]
    rfl

theorem evalTerm_vars {t : PTerm} {b : List (Var × Rat)} {y : Var} (h : y ∈ (Poly.evalTerm t b).vars) :
    y ∈ t.vars ∧ y ∉ b.map (·.1) := by
  induction b generalizing t with
  | nil => simpa [Poly.evalTerm] using h
  | cons p b ih =>
    rw [evalTerm_cons] at h
    obtain ⟨h1, h2⟩ := ih h
    obtain ⟨h3, h4⟩ := subst_const_vars h1
    refine ⟨h3, ?_⟩
    simp only [List.map_cons, List.mem_cons, not_or]
    exact ⟨h4, h2⟩

theorem TL.mem_vars {l : TL} {x : Var} : x ∈ l.vars ↔ ∃ t ∈ l, x ∈ t.vars := by
  simp [TL.vars, Gen.mem_foldl_union]

theorem TL.vars_nodup {l : TL} (h : ∀ t ∈ l, t.vars.Nodup) : l.vars.Nodup :=
  Gen.foldl_union_nodup PTerm.vars l [] List.nodup_nil h

theorem PTerm.holds_of_vars_nil (t : PTerm) (h : t.vars = []) (v : Val) : t.holds v ↔ 0 ≤ t.const := by
  have hc : t.coeffs = [] := by
    unfold PTerm.vars varsL at h
    exact List.map_eq_nil_iff.mp h
  simp [PTerm.holds, hc, evalL]

theorem evalTerm_cov (t : PTerm) (b : List (Var × Rat)) (hcov : ∀ x ∈ t.vars, x ∈ b.map (·.1)) :
    (Poly.evalTerm t b).vars = [] ∧ (¬ (Poly.evalTerm t b).const < 0 ↔ t.holds (valOf b)) := by
  have hvars : (Poly.evalTerm t b).vars = [] :=
    List.eq_nil_iff_forall_not_mem.mpr fun y hy => (evalTerm_vars hy).2 (hcov y (evalTerm_vars hy).1)
  refine ⟨hvars, ?_⟩
  rw [not_lt, ← PTerm.holds_of_vars_nil _ hvars (valOf b), evalTerm_holds]
  rw [PTerm.holds_def, PTerm.holds_def,
    evalL_congr t.coeffs (override (valOf b) b) (valOf b) fun x hx => override_eq_valOf (hcov x hx)]

theorem evaluate_ok_iff (l : TL) (b : List (Var × Rat)) (hcov : ∀ x ∈ l.vars, x ∈ b.map (·.1)) :
    (∃ r, Poly.evaluate l b = .ok r) ↔ TL.holds l (valOf b) := by
  induction l with
  | nil => simp [Poly.evaluate, TL.holds_nil]
  | cons t l ih =>
    have hin : ∀ t' ∈ t :: l, ∀ x ∈ t'.vars, x ∈ b.map (·.1) := fun t' ht' x hx =>
      hcov x (TL.mem_vars.mpr ⟨t', ht', hx⟩)
    obtain ⟨hvars, hsem⟩ := evalTerm_cov t b (hin t List.mem_cons_self)
    have ih' := ih fun x hx => by
      obtain ⟨t', ht', hx'⟩ := TL.mem_vars.mp hx
      exact hin t' (List.mem_cons_of_mem _ ht') x hx'
    rw [Poly.evaluate, TL.holds_cons, ← hsem, ← ih']
    simp only [hvars, List.isEmpty_nil, if_true]
    -- a negative constant raises; otherwise the term is dropped and the rest decides
    by_cases hc : (Poly.evalTerm t b).const < 0
    · rw [if_pos hc]; exact iff_of_false nofun fun h => h.1 hc
    · rw [if_neg hc]
      exact (and_iff_right hc).symm

theorem containsBehavior_cov (l : TL) (b : List (Var × Rat)) (hcov : ∀ x ∈ l.vars, x ∈ b.map (·.1)) :
    ∃ c, Poly.containsBehavior l b = .ok c ∧ (c = true ↔ TL.holds l (valOf b)) := by
  have hd : (Gen.list_diff l.vars (b.map (·.1))).isEmpty = true := Gen.list_diff_isEmpty_iff.mpr hcov
  unfold Poly.containsBehavior
  rw [hd, ← evaluate_ok_iff l b hcov]
  cases h : Poly.evaluate l b with
  | ok r => exact ⟨true, rfl, by simp⟩
  | error e => exact ⟨false, rfl, by simp⟩

theorem containsBehavior_error (l : TL) (b : List (Var × Rat)) {e : Err} :
    Poly.containsBehavior l b = .error e ↔ e = .valueError ∧ ∃ x ∈ l.vars, x ∉ b.map (·.1) := by
  have hguard : (!(Gen.list_diff l.vars (b.map (·.1))).isEmpty) = true ↔ ∃ x ∈ l.vars, x ∉ b.map (·.1) := by
    rw [Bool.not_eq_true', ← Bool.not_eq_true, Gen.list_diff_isEmpty_iff]
    push Not
    rfl
  unfold Poly.containsBehavior
  split_ifs with hc
  · rw [Except.error.injEq]
    exact ⟨fun h => ⟨h.symm, hguard.mp hc⟩, fun h => h.1.symm⟩
  · exact iff_of_false (by split <;> nofun) fun ⟨_, hx⟩ => hc (hguard.mpr hx)

theorem TL.holds_union {a b : TL} {v : Val} : TL.holds (Gen.list_union a b) v ↔ TL.holds a v ∧ TL.holds b v :=
  Gen.forall_mem_list_union

theorem TL.mem_withVars {l : TL} {xs : List Var} {t : PTerm} : t ∈ TL.withVars l xs ↔ t ∈ l ∧ ∃ x ∈ t.vars, x ∈ xs :=
  Gen.mem_filter_meets

theorem Poly.rabs_eq_abs (q : ℚ) : Poly.rabs q = |q| := by
  unfold Poly.rabs
  split
  · rw [abs_of_neg ‹_›]
  · rw [abs_of_nonneg (le_of_not_gt ‹_›)]
