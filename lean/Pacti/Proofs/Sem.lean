import Pacti.Model.Sem
import Mathlib.Tactic.Linarith
import Mathlib.Tactic.Ring
import Mathlib.Tactic.FieldSimp
import Mathlib.Algebra.Order.Field.Rat
/-! The `evalL_*` equations hold for arbitrary association lists, not only for normal forms. -/

theorem evalL_append (a b : Lin) (v : Val) : evalL (a ++ b) v = evalL a v + evalL b v := by
  induction a with
  | nil => simp [evalL]
  | cons p a ih => simp only [List.cons_append, evalL, ih]; ring

/-- `g` is `k * ·` in whichever way the model writes it (`-c`, `c * k`, `k * c`) -/
theorem evalL_map_snd (l : Lin) (g : Rat → Rat) (k : Rat) (hg : ∀ c, g c = k * c) (v : Val) :
    evalL (l.map fun p => (p.1, g p.2)) v = k * evalL l v := by
  induction l with
  | nil => rw [List.map_nil, evalL, mul_zero]
  | cons p l ih => rw [List.map_cons, evalL, evalL, ih, hg, mul_add, mul_assoc]

theorem evalL_scaleL (k : Rat) (l : Lin) (v : Val) : evalL (scaleL k l) v = k * evalL l v :=
  evalL_map_snd l _ k (fun _ => rfl) v

theorem evalL_zero (l : Lin) : evalL l (fun _ => 0) = 0 := by
  induction l with
  | nil => rfl
  | cons p l ih => rw [evalL, ih, mul_zero, add_zero]

/-! `insertC` on a non-empty list, by the position of the key; in the first two cases and on `[]` the result is
    "`(x, c') :: l` unless `c' = 0`", the list that `mem_consNZ`, `evalL_consNZ` and `consNZ_sorted` are about -/

theorem insertC_cons_lt {x : Var} (c : Rat) {p : Var × Rat} (r : Lin) (h : x < p.1) :
    insertC x c (p :: r) = if c = 0 then p :: r else (x, c) :: p :: r := if_pos h

theorem insertC_cons_eq (c : Rat) (p : Var × Rat) (r : Lin) :
    insertC p.1 c (p :: r) = if c + p.2 = 0 then r else (p.1, c + p.2) :: r := by
  rw [insertC, if_neg (Nat.lt_irrefl _), if_pos rfl]

theorem insertC_cons_gt {x : Var} (c : Rat) {p : Var × Rat} (r : Lin) (h : p.1 < x) :
    insertC x c (p :: r) = p :: insertC x c r := by
  rw [insertC, if_neg (Nat.lt_asymm h), if_neg (Nat.ne_of_gt h)]

theorem mem_consNZ {x : Var} {c : Rat} {l : Lin} {q : Var × Rat} (h : q ∈ if c = 0 then l else (x, c) :: l) :
    q.1 = x ∨ q ∈ l := by
  split at h
  · exact .inr h
  · exact (List.mem_cons.mp h).imp_left (congrArg Prod.fst)

theorem evalL_consNZ {x : Var} {c : Rat} {l : Lin} (v : Val) :
    evalL (if c = 0 then l else (x, c) :: l) v = c * v x + evalL l v := by
  split
  · rename_i h
    rw [h, zero_mul, zero_add]
  · rfl

theorem evalL_insertC (x : Var) (c : Rat) (l : Lin) (v : Val) :
    evalL (insertC x c l) v = c * v x + evalL l v := by
  induction l with
  | nil => exact evalL_consNZ v
  | cons p r ih =>
    rcases Nat.lt_trichotomy x p.1 with hlt | rfl | hgt
    · rw [insertC_cons_lt c r hlt]
      exact evalL_consNZ v
    · rw [insertC_cons_eq, evalL_consNZ, evalL, add_mul, add_assoc]
    · rw [insertC_cons_gt c r hgt, evalL, ih, evalL, add_left_comm]

theorem mem_insertC {x : Var} {c : Rat} {l : Lin} {q : Var × Rat} (h : q ∈ insertC x c l) : q.1 = x ∨ q ∈ l := by
  induction l with
  | nil => exact mem_consNZ h
  | cons p r ih =>
    rcases Nat.lt_trichotomy x p.1 with hlt | rfl | hgt
    · rw [insertC_cons_lt c r hlt] at h
      exact mem_consNZ h
    · rw [insertC_cons_eq] at h
      exact (mem_consNZ h).imp_right (List.mem_cons_of_mem _)
    · rw [insertC_cons_gt c r hgt] at h
      rcases List.mem_cons.mp h with rfl | h
      · exact .inr List.mem_cons_self
      · exact (ih h).imp_right (List.mem_cons_of_mem _)

/-- keys strictly increasing, no zero coefficient: what `normC` produces and what `PTerm` carries -/
def SortedNZ (l : Lin) : Prop := l.Pairwise (fun a b => a.1 < b.1) ∧ ∀ p ∈ l, p.2 ≠ 0

theorem sortedNZ_cons (p : Var × Rat) (r : Lin) :
    SortedNZ (p :: r) ↔ (∀ q ∈ r, p.1 < q.1) ∧ p.2 ≠ 0 ∧ SortedNZ r := by
  rw [SortedNZ, List.pairwise_cons, List.forall_mem_cons, and_and_and_comm, and_assoc]
  rfl

theorem consNZ_sorted {x : Var} {c : Rat} {l : Lin} (hl : SortedNZ l) (hx : ∀ q ∈ l, x < q.1) :
    SortedNZ (if c = 0 then l else (x, c) :: l) := by
  split
  · exact hl
  · rename_i hc
    exact (sortedNZ_cons _ _).mpr ⟨hx, hc, hl⟩

theorem insertC_sorted (x : Var) (c : Rat) {l : Lin} (h : SortedNZ l) : SortedNZ (insertC x c l) := by
  induction l with
  | nil => exact consNZ_sorted h nofun
  | cons p r ih =>
    obtain ⟨hpr, hpz, hr⟩ := (sortedNZ_cons p r).mp h
    rcases Nat.lt_trichotomy x p.1 with hlt | rfl | hgt
    · rw [insertC_cons_lt c r hlt]
      exact consNZ_sorted h (List.forall_mem_cons.mpr ⟨hlt, fun q hq => Nat.lt_trans hlt (hpr q hq)⟩)
    · rw [insertC_cons_eq]
      exact consNZ_sorted hr hpr
    · rw [insertC_cons_gt c r hgt]
      exact (sortedNZ_cons _ _).mpr
        ⟨fun q hq => (mem_insertC hq).elim (fun e => e ▸ hgt) (hpr q), hpz, ih hr⟩

theorem normC_cons (p : Var × Rat) (l : Lin) : normC (p :: l) = insertC p.1 p.2 (normC l) := rfl

theorem normC_sorted (l : Lin) : SortedNZ (normC l) := by
  induction l with
  | nil => exact ⟨List.Pairwise.nil, nofun⟩
  | cons p r ih => rw [normC_cons]; exact insertC_sorted p.1 p.2 ih

theorem normC_of_sorted {l : Lin} (h : SortedNZ l) : normC l = l := by
  induction l with
  | nil => rfl
  | cons p r ih =>
    obtain ⟨hpr, hpz, hr⟩ := (sortedNZ_cons p r).mp h
    rw [normC_cons, ih hr]
    cases r with
    | nil => exact if_neg hpz
    | cons q r' => rw [insertC_cons_lt _ _ (hpr q List.mem_cons_self), if_neg hpz]

theorem normC_idem (l : Lin) : normC (normC l) = normC l := normC_of_sorted (normC_sorted l)

theorem evalL_normC (l : Lin) (v : Val) : evalL (normC l) v = evalL l v := by
  induction l with
  | nil => simp [normC, evalL]
  | cons p l ih =>
    rw [normC_cons, evalL_insertC, ih, evalL]

theorem evalL_addL (a b : Lin) (v : Val) : evalL (addL a b) v = evalL a v + evalL b v := by
  simp [addL, evalL_normC, evalL_append]

theorem evalL_filter_ne (l : Lin) (x : Var) (v : Val) :
    evalL (l.filter (fun p => p.1 != x)) v = evalL l v - coeffOf x l * v x := by
  induction l with
  | nil => simp [evalL, coeffOf]
  | cons p l ih =>
    rw [List.filter_cons, coeffOf, evalL]
    by_cases h : p.1 = x
    · rw [if_neg (by simp [h]), if_pos h, ih, h]
      ring
    · rw [if_pos (by simp [h]), if_neg h, evalL, ih]
      ring

theorem evalL_filter_split (l : Lin) (p : Var × Rat → Bool) (v : Val) :
    evalL l v = evalL (l.filter p) v + evalL (l.filter (fun a => !p a)) v := by
  induction l with
  | nil => simp [evalL]
  | cons a l ih =>
    by_cases h : p a = true
    · simp only [List.filter_cons, h, ↓reduceIte, Bool.not_true, Bool.false_eq_true, evalL]
      rw [ih]
      ring
    · simp only [Bool.not_eq_true] at h
      simp only [List.filter_cons, h, Bool.false_eq_true, ↓reduceIte, Bool.not_false, evalL]
      rw [ih]
      ring

theorem evalL_congr (l : Lin) (v w : Val) (h : ∀ x ∈ varsL l, v x = w x) : evalL l v = evalL l w := by
  induction l with
  | nil => rfl
  | cons p l ih =>
    rw [evalL, evalL, h p.1 List.mem_cons_self, ih fun x hx => h x (List.mem_cons_of_mem _ hx)]

theorem evalL_add_mul (l : Lin) (x d : Val) (t : Rat) :
    evalL l (fun k => x k + t * d k) = evalL l x + t * evalL l d := by
  induction l with
  | nil => simp [evalL]
  | cons p l ih => simp only [evalL, ih]; ring

def mix (t : Rat) (u w : Val) : Val := fun x => t * u x + (1 - t) * w x

theorem evalL_mix (l : Lin) (t : Rat) (u w : Val) :
    evalL l (mix t u w) = t * evalL l u + (1 - t) * evalL l w := by
  induction l with
  | nil => simp [evalL]
  | cons p l ih => simp only [evalL, ih, mix]; ring

theorem PTerm.holds_def (t : PTerm) (v : Val) : t.holds v ↔ evalL t.coeffs v ≤ t.const := Iff.rfl

theorem TL.holds_nil (v : Val) : TL.holds [] v := by intro t ht; cases ht

theorem TL.holds_cons {t : PTerm} {l : TL} {v : Val} : TL.holds (t :: l) v ↔ t.holds v ∧ TL.holds l v := by
  unfold TL.holds
  simp

theorem TL.holds_singleton {t : PTerm} {v : Val} : TL.holds [t] v ↔ t.holds v := by
  rw [TL.holds_cons, and_iff_left (TL.holds_nil v)]

theorem TL.holds_append {a b : TL} {v : Val} : TL.holds (a ++ b) v ↔ TL.holds a v ∧ TL.holds b v := by
  simp only [TL.holds, List.mem_append, or_imp, forall_and]

theorem TL.holds_flatMap {α : Type} {l : List α} {f : α → TL} {v : Val} :
    TL.holds (l.flatMap f) v ↔ ∀ d ∈ l, TL.holds (f d) v := by
  simp only [TL.holds, List.mem_flatMap]
  exact ⟨fun h d hd t ht => h t ⟨d, hd, ht⟩, fun h t ⟨d, hd, ht⟩ => h d hd t ht⟩

theorem TL.holds.erase {l : TL} {v : Val} (h : TL.holds l v) (t : PTerm) : TL.holds (l.erase t) v :=
  fun a ha => h a (List.mem_of_mem_erase ha)

theorem TL.holds_erase_of_mem {ts : TL} {tn : PTerm} (h : tn ∈ ts) (v : Val) :
    TL.holds ts v ↔ tn.holds v ∧ TL.holds (ts.erase tn) v :=
  (forall_congr' fun _ => imp_congr_left (List.perm_cons_erase h).mem_iff).trans List.forall_mem_cons

theorem TL.holds_mix (rs : TL) (t : Rat) (h0 : 0 ≤ t) (h1 : t ≤ 1) (u w : Val)
    (hu : TL.holds rs u) (hw : TL.holds rs w) : TL.holds rs (mix t u w) := by
  intro r hr
  have a := mul_le_mul_of_nonneg_left (hu r hr) h0
  have b := mul_le_mul_of_nonneg_left (hw r hr) (sub_nonneg.mpr h1)
  rw [PTerm.holds_def, evalL_mix]
  calc t * evalL r.coeffs u + (1 - t) * evalL r.coeffs w ≤ t * r.const + (1 - t) * r.const := add_le_add a b
    _ = r.const := by ring
