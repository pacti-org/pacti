import Pacti.Model.Eq
/-! Dict lookup and sorting by variable need nothing of the numbers; `==`, `str`, `hash` and `copy` of terms, term lists
    and nested lists are relative to `NumOps N`. -/

namespace EqModel
open NumOps

variable {N : Type}

namespace Term

theorem find_some_mem {x : V} {w : N} {l : List (V × N)} : find x l = some w → (x, w) ∈ l := by
  fun_induction find x l
  case case1 => nofun
  case case2 hp =>
    rintro ⟨⟩
    subst hp
    exact List.mem_cons_self
  case case3 ih => exact fun h => List.mem_cons_of_mem _ (ih h)

theorem find_of_mem_keys {x : V} {l : List (V × N)} : x ∈ l.map (·.1) → ∃ w, find x l = some w := by
  fun_induction find x l
  case case1 => nofun
  case case2 p _ _ => exact fun _ => ⟨p.2, rfl⟩
  case case3 hp ih => exact fun h => ih ((List.mem_cons.mp h).resolve_left (Ne.symm hp))

theorem find_of_mem_nodup {x : V} {w : N} {l : List (V × N)} :
    (l.map (·.1)).Nodup → (x, w) ∈ l → find x l = some w := by
  fun_induction find x l
  case case1 => nofun
  case case2 hp =>
    intro hn h
    rcases List.mem_cons.mp h with rfl | h
    · rfl
    · exact absurd (List.mem_map.mpr ⟨(x, w), h, hp.symm⟩) (List.nodup_cons.mp hn).1
  case case3 hp ih =>
    intro hn h
    exact ih (List.nodup_cons.mp hn).2 ((List.mem_cons.mp h).resolve_left fun e => hp (congrArg Prod.fst e).symm)

theorem keysEq_iff (s t : Term N) : keysEq s t = true ↔ ∀ x, x ∈ s.keys ↔ x ∈ t.keys := by
  simp only [keysEq, Bool.and_eq_true, List.all_eq_true, List.contains_iff_mem, iff_def, forall_and]

theorem mem_insertK {a p : V × N} {l : List (V × N)} : a ∈ insertK p l ↔ a = p ∨ a ∈ l := by
  fun_induction insertK p l
  case case1 => simp
  case case2 => exact List.mem_cons
  case case3 ih =>
    simp only [List.mem_cons, ih]
    exact or_left_comm

theorem mem_sortK {a : V × N} : ∀ {l : List (V × N)}, a ∈ sortK l ↔ a ∈ l
  | [] => by simp [sortK]
  | p :: r => by
    have ih := mem_sortK (a := a) (l := r)
    simp only [sortK, List.foldr_cons] at ih ⊢
    rw [mem_insertK, ih, List.mem_cons]

abbrev SortedK (l : List (V × N)) : Prop := l.Pairwise (fun a b => a.1 < b.1)

theorem sorted_insertK {p : V × N} {l : List (V × N)} :
    SortedK l → (∀ q ∈ l, q.1 ≠ p.1) → SortedK (insertK p l) := by
  fun_induction insertK p l
  case case1 => exact fun _ _ => List.pairwise_singleton _ _
  case case2 q r hle =>
    intro hs hne
    have hlt : p.1 < q.1 := Nat.lt_of_le_of_ne hle (Ne.symm (hne q List.mem_cons_self))
    exact List.pairwise_cons.mpr
      ⟨List.forall_mem_cons.mpr ⟨hlt, fun b hb => Nat.lt_trans hlt ((List.pairwise_cons.mp hs).1 b hb)⟩, hs⟩
  case case3 q r hle ih =>
    intro hs hne
    have hs' := List.pairwise_cons.mp hs
    refine List.pairwise_cons.mpr ⟨fun b hb => ?_, ih hs'.2 fun b hb => hne b (List.mem_cons_of_mem _ hb)⟩
    rcases mem_insertK.mp hb with rfl | hb
    · exact Nat.lt_of_not_le hle
    · exact hs'.1 b hb

theorem sorted_sortK : ∀ {l : List (V × N)}, (l.map (·.1)).Nodup → SortedK (sortK l)
  | [], _ => by simp [sortK]
  | p :: r, hn => by
    simp only [List.map_cons, List.nodup_cons] at hn
    simp only [sortK, List.foldr_cons]
    apply sorted_insertK (sorted_sortK hn.2)
    intro q hq he
    have hq' : q ∈ r := mem_sortK.mp hq
    exact hn.1 (he ▸ List.mem_map.mpr ⟨q, hq', rfl⟩)

theorem sorted_keys_eq {A B : List (V × N)} (hA : SortedK A) (hB : SortedK B)
    (hk : ∀ x, x ∈ A.map (·.1) ↔ x ∈ B.map (·.1)) : A.map (·.1) = B.map (·.1) := by
  -- two strictly increasing, hence duplicate-free, lists with the same members are permutations of each other, and
  -- a strictly increasing permutation is unique
  have hA' : (A.map (·.1)).Pairwise (· < ·) := List.pairwise_map.mpr hA
  have hB' : (B.map (·.1)).Pairwise (· < ·) := List.pairwise_map.mpr hB
  have nd : ∀ {l : List V}, l.Pairwise (· < ·) → l.Nodup := List.Pairwise.imp Nat.ne_of_lt
  exact List.Perm.eq_of_pairwise (le := (· < ·)) (fun a b _ _ h1 h2 => absurd (Nat.lt_trans h1 h2) (Nat.lt_irrefl _))
    hA' hB' ((List.perm_ext_iff_of_nodup (nd hA') (nd hB')).mpr hk)

theorem map_eq_of_keys_eq {β : Type} (f : V × N → β) : ∀ {A B : List (V × N)}, A.map (·.1) = B.map (·.1) →
    (∀ p ∈ A, ∀ q ∈ B, p.1 = q.1 → f p = f q) → A.map f = B.map f
  | [], [], _, _ => rfl
  | [], _ :: _, h, _ => nomatch h
  | _ :: _, [], h, _ => nomatch h
  | a :: A, b :: B, h, hf => by
    rw [List.map_cons, List.map_cons, List.cons.injEq] at h
    rw [List.map_cons, List.map_cons, hf a List.mem_cons_self b List.mem_cons_self h.1,
      map_eq_of_keys_eq f h.2 fun p hp q hq => hf p (List.mem_cons_of_mem _ hp) q (List.mem_cons_of_mem _ hq)]

end Term

variable [NumOps N]

namespace Term

theorem valsEq_iff (s t : Term N) :
    valsEq s t = true ↔ ∀ p ∈ s.coeffs, ∃ w, find p.1 t.coeffs = some w ∧ eqN p.2 w = true := by
  unfold valsEq get?
  rw [List.all_eq_true]
  refine forall₂_congr fun p _ => ?_
  cases find p.1 t.coeffs <;> simp

theorem eq_iff (s t : Term N) :
    eq s t = true ↔ (∀ x, x ∈ s.keys ↔ x ∈ t.keys) ∧
      (∀ p ∈ s.coeffs, ∃ w, find p.1 t.coeffs = some w ∧ eqN p.2 w = true) ∧ eqN s.const t.const = true := by
  simp only [eq, Bool.and_eq_true, keysEq_iff, valsEq_iff, and_assoc]

theorem eq_refl (hrefl : ∀ a : N, eqN a a = true) {t : Term N} (hn : t.NodupKeys) : eq t t = true := by
  rw [eq_iff]
  refine ⟨fun _ => Iff.rfl, ?_, hrefl _⟩
  intro p hp
  exact ⟨p.2, find_of_mem_nodup hn hp, hrefl _⟩

theorem eq_symm (hsymm : ∀ a b : N, eqN a b = true → eqN b a = true) {s t : Term N} (hn : t.NodupKeys)
    (h : eq s t = true) : eq t s = true := by
  rw [eq_iff] at h ⊢
  obtain ⟨hk, hv, hc⟩ := h
  refine ⟨fun x => (hk x).symm, ?_, hsymm _ _ hc⟩
  intro q hq
  have hqs : q.1 ∈ s.keys := (hk q.1).mpr (List.mem_map.mpr ⟨q, hq, rfl⟩)
  obtain ⟨v, hv1⟩ := find_of_mem_keys hqs
  obtain ⟨w, hw, hvw⟩ := hv (q.1, v) (find_some_mem hv1)
  have hwq : w = q.2 := Option.some.inj (hw.symm.trans (find_of_mem_nodup hn hq))
  subst hwq
  exact ⟨v, hv1, hsymm _ _ hvw⟩

theorem eq_trans (htrans : ∀ a b c : N, eqN a b = true → eqN b c = true → eqN a c = true) {s t u : Term N}
    (h1 : eq s t = true) (h2 : eq t u = true) : eq s u = true := by
  rw [eq_iff] at h1 h2 ⊢
  obtain ⟨hk1, hv1, hc1⟩ := h1
  obtain ⟨hk2, hv2, hc2⟩ := h2
  refine ⟨fun x => (hk1 x).trans (hk2 x), ?_, htrans _ _ _ hc1 hc2⟩
  intro p hp
  obtain ⟨w, hw, e1⟩ := hv1 p hp
  obtain ⟨z, hz, e2⟩ := hv2 (p.1, w) (find_some_mem hw)
  exact ⟨z, hz, htrans _ _ _ e1 e2⟩

/-- equal terms print equally when their coefficients and constants do -/
theorem strWith_eq_of_eq {pz : Bool} (nm : V → String) {s t : Term N} (hs : s.NodupKeys) (ht : t.NodupKeys)
    (hcoef : ∀ p ∈ s.coeffs, ∀ w : N, eqN p.2 w = true → strN p.2 = strN w)
    (hconst : eqN s.const t.const = true → strK pz s.const = strK pz t.const)
    (h : eq s t = true) : strWith pz nm s = strWith pz nm t := by
  rw [eq_iff] at h
  obtain ⟨hk, hv, hcst⟩ := h
  -- same key set and strictly sorted keys: the sorted item lists have the same keys position by position, so the
  -- items print alike one by one
  have hkeys : (sortK s.coeffs).map (·.1) = (sortK t.coeffs).map (·.1) := by
    apply sorted_keys_eq (sorted_sortK hs) (sorted_sortK ht)
    intro x
    have := hk x
    simp only [keys, List.mem_map] at this
    simp only [List.mem_map, mem_sortK]
    exact this
  have hitems : (sortK s.coeffs).map (fun p => strN p.2 ++ "*" ++ nm p.1) =
      (sortK t.coeffs).map (fun p => strN p.2 ++ "*" ++ nm p.1) := by
    apply map_eq_of_keys_eq _ hkeys
    intro p hp q hq hpq
    have hp' := mem_sortK.mp hp
    obtain ⟨w, hw, he⟩ := hv p hp'
    have hwq : w = q.2 :=
      Option.some.inj (hw.symm.trans (hpq ▸ find_of_mem_nodup ht (mem_sortK.mp hq)))
    subst hwq
    rw [hcoef p hp' _ he, hpq]
  unfold strWith
  rw [hitems, hconst hcst]

/-- equal terms print equally when equal numbers do -/
theorem str_eq_of_eq (hc : NumOps.Coherent N) (nm : V → String) {s t : Term N} (hs : s.NodupKeys) (ht : t.NodupKeys)
    (h : eq s t = true) : str nm s = str nm t := by
  unfold str
  apply strWith_eq_of_eq nm hs ht (fun p _ w he => (hc _ _ he).1) ?_ h
  intro he
  unfold strK
  split
  · exact (hc _ _ he).2
  · exact (hc _ _ he).1

/-- equal constructed terms print equally over numbers satisfying only the IEEE part of the law, when the source
    prints the constant through `+ 0.0` -/
theorem str_eq_of_eq_ieee (hstr : Gen.strConstPlusZero = true) (hc : NumOps.CoherentIEEE N) (nm : V → String)
    {s t : Term N} (hs : s.NodupKeys) (ht : t.NodupKeys) (hz : s.NoZero) (h : eq s t = true) :
    str nm s = str nm t := by
  unfold str
  rw [hstr]
  apply strWith_eq_of_eq nm hs ht (fun p hp w he => hc.nz _ _ he (hz p hp)) ?_ h
  intro he
  simp only [strK, ↓reduceIte]
  exact hc.z _ _ he

theorem mk'_noZero (l : List (V × N)) (k : N) : (mk' l k).NoZero := by
  intro p hp
  simp only [mk', List.mem_filter, Bool.not_eq_true'] at hp
  exact hp.2

theorem mk'_nodupKeys (l : List (V × N)) (k : N) (h : (l.map (·.1)).Nodup) : (mk' l k).NodupKeys := by
  unfold NodupKeys keys mk'
  exact (List.filter_sublist.map _).nodup h

/-- copying a constructed term (no zero coefficient stored) returns the same dict and constant -/
theorem copy_eq_self {t : Term N} (hz : t.NoZero) : t.copy = t := by
  unfold copy mk'
  have : t.coeffs.filter (fun p => !isZero p.2) = t.coeffs := by
    apply List.filter_eq_self.mpr
    intro p hp
    simp [hz p hp]
  rw [this]

end Term

namespace TList

theorem eq_refl (hrefl : ∀ a : N, eqN a a = true) : ∀ {l : TList N}, l.NodupKeys → eq l l = true
  | [], _ => rfl
  | t :: l, hn => by
    unfold eq
    rw [Term.eq_refl hrefl (hn t List.mem_cons_self), eq_refl hrefl (fun u hu => hn u (List.mem_cons_of_mem _ hu))]
    rfl

/-- `TList.eq` is the elementwise lifting of `Term.eq`: to prove something of two equal lists, prove it of `[]`,
    `[]` and carry it over one pair of equal heads -/
theorem eq_induction {motive : (l m : TList N) → eq l m = true → Prop} (nil : motive [] [] rfl)
    (cons : ∀ s t l m (hst : Term.eq s t = true) (hlm : eq l m = true), motive l m hlm →
      motive (s :: l) (t :: m) ((Bool.and_eq_true _ _).mpr ⟨hst, hlm⟩)) :
    ∀ l m (h : eq l m = true), motive l m h
  | [], [], _ => nil
  | [], _ :: _, h => nomatch h
  | _ :: _, [], h => nomatch h
  | s :: l, t :: m, h =>
    have h' := (Bool.and_eq_true _ _).mp h
    cons s t l m h'.1 h'.2 (eq_induction nil cons l m h'.2)

theorem eq_symm (hsymm : ∀ a b : N, eqN a b = true → eqN b a = true) {l m : TList N} (hn : m.NodupKeys)
    (h : eq l m = true) : eq m l = true := by
  induction l, m, h using eq_induction with
  | nil => rfl
  | cons s t l m hst _ ih =>
    exact (Bool.and_eq_true _ _).mpr ⟨Term.eq_symm hsymm (hn t List.mem_cons_self) hst,
      ih fun u hu => hn u (List.mem_cons_of_mem _ hu)⟩

theorem eq_trans (htrans : ∀ a b c : N, eqN a b = true → eqN b c = true → eqN a c = true) {l m n : TList N}
    (h1 : eq l m = true) (h2 : eq m n = true) : eq l n = true := by
  induction l, m, h1 using eq_induction generalizing n with
  | nil => exact h2
  | cons s t l m hst _ ih =>
    cases n with
    | nil => exact nomatch h2
    | cons u n =>
      have h2' := (Bool.and_eq_true _ _).mp h2
      exact (Bool.and_eq_true _ _).mpr ⟨Term.eq_trans htrans hst h2'.1, ih h2'.2⟩

theorem hash_eq_of_eq {Hc : Type} (nm : V → String) (H : Hashers Hc) {l m : TList N}
    (hstr : ∀ s ∈ l, ∀ t ∈ m, Term.eq s t = true → Term.str nm s = Term.str nm t) (h : eq l m = true) :
    hash nm H l = hash nm H m := by
  unfold hash
  congr 1
  induction l, m, h using eq_induction with
  | nil => rfl
  | cons s t l m hst _ ih =>
    rw [List.map_cons, List.map_cons, ih fun a ha b hb => hstr a (List.mem_cons_of_mem _ ha) b (List.mem_cons_of_mem _ hb)]
    unfold Term.hash
    rw [hstr s List.mem_cons_self t List.mem_cons_self hst]

theorem copy_eq_self {l : TList N} (hz : l.NoZero) : l.copy = l :=
  (List.map_congr_left fun t ht => Term.copy_eq_self (hz t ht)).trans (List.map_id' l)

end TList

theorem NTL.le_refl {L : Type} {le : L → L → Bool} (hr : ∀ x, le x x = true) (a : List L) : NTL.le le a a = true := by
  simp only [NTL.le, List.all_eq_true, List.any_eq_true]
  intro x hx
  exact ⟨x, hx, hr x⟩

theorem NTL.le_trans {L : Type} {le : L → L → Bool} (ht : ∀ x y z, le x y = true → le y z = true → le x z = true)
    {a b c : List L} (h1 : NTL.le le a b = true) (h2 : NTL.le le b c = true) : NTL.le le a c = true := by
  simp only [NTL.le, List.all_eq_true, List.any_eq_true] at h1 h2 ⊢
  intro x hx
  obtain ⟨y, hy, hxy⟩ := h1 x hx
  obtain ⟨z, hz, hyz⟩ := h2 y hy
  exact ⟨z, hz, ht x y z hxy hyz⟩

theorem NTL.eq_refl {L : Type} {le : L → L → Bool} (hr : ∀ x, le x x = true) (a : List L) : NTL.eq le a a = true := by
  rw [NTL.eq, NTL.le_refl hr, Bool.and_self]

theorem NTL.eq_symm {L : Type} {le : L → L → Bool} {a b : List L} (h : NTL.eq le a b = true) :
    NTL.eq le b a = true := by
  rw [NTL.eq, Bool.and_comm]
  exact h

theorem NTL.eq_trans {L : Type} {le : L → L → Bool} (ht : ∀ x y z, le x y = true → le y z = true → le x z = true)
    {a b c : List L} (h1 : NTL.eq le a b = true) (h2 : NTL.eq le b c = true) : NTL.eq le a c = true := by
  rw [NTL.eq, Bool.and_eq_true] at h1 h2 ⊢
  exact ⟨NTL.le_trans ht h1.1 h2.1, NTL.le_trans ht h2.2 h1.2⟩

theorem eqN_rat_iff {a b : Rat} : eqN a b = true ↔ a = b := by simp [eqN]

end EqModel
