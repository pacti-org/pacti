import Pacti.Model.LP
import Pacti.Proofs.Sem
/-! Soundness of the certificate checkers: `checkedOracle solver` is `Certified` for EVERY `solver`. -/

theorem linComb_le (ys : List Rat) (cs : TL) (v : Val) (hy : ∀ y ∈ ys, 0 ≤ y) (hc : TL.holds cs v) :
    evalL (linComb ys cs).1 v ≤ (linComb ys cs).2 := by
  induction ys generalizing cs with
  | nil => simp [linComb, evalL]
  | cons y ys ih =>
    cases cs with
    | nil => simp [linComb, evalL]
    | cons t ts =>
      simp only [linComb]
      rw [evalL_append, evalL_scaleL]
      exact add_le_add (mul_le_mul_of_nonneg_left (hc t List.mem_cons_self) (hy y List.mem_cons_self))
        (ih ts (fun y' hy' => hy y' (List.mem_cons_of_mem _ hy')) fun t' ht' => hc t' (List.mem_cons_of_mem _ ht'))

theorem checkComb_sound (ys : List Rat) (cs : TL) (goal : PTerm) (h : checkComb ys cs goal = true) :
    ∀ v, TL.holds cs v → goal.holds v := by
  intro v hv
  simp only [checkComb, Bool.and_eq_true, beq_iff_eq, List.all_eq_true, decide_eq_true_eq] at h
  obtain ⟨⟨⟨_, hy⟩, hc⟩, hb⟩ := h
  have h1 := linComb_le ys cs v hy hv
  have h2 : evalL goal.coeffs v = evalL (linComb ys cs).1 v := by
    rw [← evalL_normC goal.coeffs, ← hc, evalL_normC]
  rw [PTerm.holds_def]
  linarith

theorem feasibleAt_sound {cs : TL} {x : List (Var × Rat)} (h : feasibleAt cs x = true) :
    TL.holds cs (valOf x) := by
  intro t ht
  simp only [feasibleAt, List.all_eq_true, decide_eq_true_eq] at h
  exact h t ht

theorem unbounded_of_ray (obj : Lin) (cs : TL) (x d : Val) (hx : TL.holds cs x)
    (hd : ∀ c ∈ cs, evalL c.coeffs d ≤ 0) (hpos : 0 < evalL obj d) (M : Rat) :
    ∃ z, TL.holds cs z ∧ M < evalL obj z := by
  -- z = x + t·d with t ≥ 0 and t·(obj·d) > M - obj·x
  obtain ⟨t, ht0, ht⟩ : ∃ t : Rat, 0 ≤ t ∧ (M - evalL obj x) / evalL obj d + 1 ≤ t :=
    ⟨_, le_max_left _ _, le_max_right _ _⟩
  have hdiv : (M - evalL obj x) / evalL obj d * evalL obj d = M - evalL obj x := div_mul_cancel₀ _ hpos.ne'
  refine ⟨fun k => x k + t * d k, fun c hc => ?_, ?_⟩
  · have := mul_nonpos_of_nonneg_of_nonpos ht0 (hd c hc)
    rw [PTerm.holds_def, evalL_add_mul]
    exact le_trans (add_le_of_nonpos_right this) (hx c hc)
  · have h1 := mul_le_mul_of_nonneg_right ht hpos.le
    rw [add_one_mul, hdiv] at h1
    rw [evalL_add_mul]
    calc M = evalL obj x + (M - evalL obj x) := (add_sub_cancel _ _).symm
      _ < evalL obj x + (M - evalL obj x + evalL obj d) := add_lt_add_right (lt_add_of_pos_right _ hpos) _
      _ ≤ evalL obj x + t * evalL obj d := add_le_add_right h1 _

theorem checkedOracle_certified (solver : Lin → TL → LPAns) : (checkedOracle solver).Certified := by
  constructor
  · intro obj cs m x
    change checkAns obj cs (solver obj cs) = _ → _
    fun_cases checkAns obj cs (solver obj cs) <;> rintro ⟨⟩
    rename_i y hc
    simp only [Bool.and_eq_true, decide_eq_true_eq] at hc
    obtain ⟨⟨hfeas, hval⟩, hcomb⟩ := hc
    -- (the term `⟨obj, m⟩` is given: left to unification, `PTerm.holds ⟨obj, m⟩ z` against `evalL obj z ≤ m` is slow)
    exact ⟨feasibleAt_sound hfeas, hval, fun z hz => checkComb_sound y cs ⟨obj, m⟩ hcomb z hz⟩
  · intro obj cs
    change checkAns obj cs (solver obj cs) = _ → _
    fun_cases checkAns obj cs (solver obj cs) <;> rintro ⟨⟩ ⟨z, hz⟩
    rename_i y hc
    have h0 : evalL [] z ≤ (-1 : Rat) := checkComb_sound y cs ⟨[], -1⟩ hc z hz
    rw [evalL] at h0
    linarith
  · intro obj cs
    change checkAns obj cs (solver obj cs) = _ → _
    fun_cases checkAns obj cs (solver obj cs) <;> rintro ⟨⟩
    rename_i x d hc
    simp only [Bool.and_eq_true, decide_eq_true_eq, List.all_eq_true] at hc
    obtain ⟨⟨hfeas, hdir⟩, hpos⟩ := hc
    have hx := feasibleAt_sound hfeas
    exact ⟨⟨_, hx⟩, unbounded_of_ray obj cs (valOf x) (valOf d) hx hdir hpos⟩

theorem Oracle.Certified.toPresolveAmbiguous {O : Oracle} (h : O.Certified) : O.PresolveAmbiguous where
  opt := h.opt
  inf := fun obj cs hh => Or.inl (h.inf obj cs hh)
  inf0 := fun cs hh => h.inf [] cs hh
  unb := h.unb
