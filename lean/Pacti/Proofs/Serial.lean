import Pacti.Model.Serial
import Pacti.Proofs.Eval
import Pacti.Proofs.Except
import Mathlib.Tactic.NormNum
/-! The machine dictionary of `Model/Serial.lean` read back, and the printer's partner search. -/

namespace Serial

theorem mapM_map_ok {α β : Type} (g : α → β) (f : β → Except Err α) (l : List α) (h : ∀ x ∈ l, f (g x) = .ok x) :
    (l.map g).mapM f = .ok l := by
  induction l with
  | nil => rfl
  | cons x r ih =>
    rw [List.map_cons, List.mapM_cons, h x List.mem_cons_self, ih fun y hy => h y (List.mem_cons_of_mem _ hy)]
    rfl

theorem mapM_numOf_map_num (l : Lin) :
    (l.map fun p => (p.1, J.num p.2)).mapM (fun p => (numOf p.2).map fun q => (p.1, q)) = Except.ok l :=
  mapM_map_ok _ _ l fun _ _ => rfl

theorem get?_obj_cons (k k' : String) (v : J) (kv : List (String × J)) :
    (J.obj ((k', v) :: kv)).get? k = if k' = k then some v else (J.obj kv).get? k := by
  simp only [J.get?, List.find?_cons]
  by_cases h : k' = k
  · rw [if_pos h, beq_iff_eq.mpr h]
    rfl
  · rw [if_neg h, beq_eq_false_iff_ne.mpr h]

theorem termOfJ_termToJ (t : PTerm) (h : normC t.coeffs = t.coeffs) : termOfJ (termToJ t) = .ok t := by
  unfold termOfJ termToJ
  simp only [get?_obj_cons, String.reduceEq, if_true, if_false, mapM_numOf_map_num]
  simp only [numOf, PTerm.mk', h]

theorem all_isObj_map_termToJ (l : TL) : (l.map termToJ).all isObj = true :=
  List.all_eq_true.mpr fun _ hj => by
    obtain ⟨t, -, rfl⟩ := List.mem_map.mp hj
    rfl

theorem termsOfJ_map {l : TL} (h : ∀ t ∈ l, normC t.coeffs = t.coeffs) : termsOfJ (.arr (l.map termToJ)) = .ok l := by
  simp only [termsOfJ, iterOf, all_isObj_map_termToJ, if_true, mapM_map_ok termToJ termOfJ l fun t ht => termOfJ_termToJ t (h t ht)]

theorem varsOfJ_map (l : List Var) : varsOfJ (.arr (l.map J.name)) = .ok l :=
  mapM_map_ok J.name varOfJ l fun _ _ => rfl

theorem hasDup_false_iff (l : List Var) : hasDup l = false ↔ l.Nodup := by
  induction l with
  | nil => simp [hasDup]
  | cons x r ih => simp [hasDup, ih]

theorem mkContract_ok_iff (a g : TL) (ins outs : List Var) (c : PContract) :
    mkContract a g ins outs = .ok c ↔
      ins.Nodup ∧ outs.Nodup ∧ (∀ x ∈ ins, x ∉ outs) ∧ (∀ x ∈ a.vars, x ∈ ins) ∧ (∀ x ∈ g.vars, x ∈ ins ∨ x ∈ outs) ∧
        ⟨a, g, ins, outs⟩ = c := by
  unfold mkContract
  simp only [guard_ok, Bool.not_eq_true', Bool.not_eq_true, Bool.not_eq_false, hasDup_false_iff,
    Gen.list_intersection_isEmpty_iff, Gen.list_diff_isEmpty_iff, Gen.mem_list_union, Except.ok.injEq]

theorem mapM_ok_all {α β : Type} (f : α → Except Err β) {P : β → Prop} (hf : ∀ {x y}, f x = .ok y → P y) :
    ∀ {l : List α} {r : List β}, l.mapM f = .ok r → ∀ y ∈ r, P y
  | [], _, h => by
    cases h
    exact List.forall_mem_nil _
  | x :: l, r, h => by
    simp only [List.mapM_cons] at h
    cases hx : f x with
    | error e => rw [hx] at h; cases h
    | ok b =>
      cases hl : l.mapM f with
      | error e => rw [hx, hl] at h; cases h
      | ok r' =>
        rw [hx, hl] at h
        cases h
        exact List.forall_mem_cons.mpr ⟨hf hx, mapM_ok_all f hf hl⟩

theorem termOfJ_normal {x : J} {t : PTerm} (h : termOfJ x = .ok t) : normC t.coeffs = t.coeffs := by
  revert h
  fun_cases termOfJ x
  case case3 =>
    rintro ⟨⟩
    exact normC_idem _
  all_goals nofun

theorem termsOfJ_normal {j : J} {l : TL} (h : termsOfJ j = .ok l) : ∀ t ∈ l, normC t.coeffs = t.coeffs := by
  revert h
  fun_cases termsOfJ j
  case case2 => exact mapM_ok_all termOfJ termOfJ_normal
  all_goals nofun

/-- exactly opposite: the same variables with exactly negated coefficients -/
def ExactOpp (tp tn : PTerm) : Prop := tn.coeffs = tp.coeffs.map (fun p => (p.1, -p.2))

/-- the one fact behind the three rules: an exactly opposite pair is a two-sided bound -/
theorem fold_pair_sound (tp tn : PTerm) (h : ExactOpp tp tn) (v : Val) :
    (tp.holds v ∧ tn.holds v) ↔ -tn.const ≤ tp.lhs v ∧ tp.lhs v ≤ tp.const := by
  have e : tn.lhs v = -tp.lhs v := by
    rw [PTerm.lhs, h, evalL_map_snd _ _ (-1) (fun c => (neg_one_mul c).symm), neg_one_mul]
    rfl
  rw [neg_le, ← e, and_comm]
  rfl

theorem approxEq_iff (a b : ℚ) : approxEq a b = true ↔ |a - b| ≤ 1 / 100000000 + 1 / 100000 * |b| := by
  simp [approxEq, Poly.rabs_eq_abs, atol, rtol]

theorem approxEq_self {a : ℚ} : approxEq a a = true := by
  rw [approxEq_iff, sub_self, abs_zero]
  exact add_nonneg (by norm_num) (mul_nonneg (by norm_num) (abs_nonneg a))

theorem coeffOf_negmap (x : Var) (l : Lin) : coeffOf x (l.map fun p => (p.1, -p.2)) = - coeffOf x l := by
  fun_induction coeffOf x l
  case case1 => exact neg_zero.symm
  case case2 hp ih => rw [List.map_cons, coeffOf, if_pos hp, ih, neg_add]
  case case3 hp ih => rw [List.map_cons, coeffOf, if_neg hp, ih]

theorem coeffOf_sorted_mem {l : Lin} (h : l.Pairwise (fun a b => a.1 < b.1)) {p : Var × ℚ} (hp : p ∈ l) :
    coeffOf p.1 l = p.2 := by
  induction l with
  | nil => cases hp
  | cons q r ih =>
    obtain ⟨hq, hr⟩ := List.pairwise_cons.mp h
    rcases List.mem_cons.mp hp with rfl | hp'
    · have h0 := coeffOf_eq_zero_of_not_mem p.1 r fun hx =>
        let ⟨y, hy, e⟩ := List.mem_map.mp hx
        Nat.lt_irrefl _ (e ▸ hq y hy)
      rw [coeffOf, if_pos rfl, h0, add_zero]
    · rw [coeffOf, if_neg (Nat.ne_of_lt (hq p hp')), ih hr hp']

theorem areOpposite_of_exact (tp tn : PTerm) (hs : SortedNZ tp.coeffs) (h : ExactOpp tp tn) : areOpposite tp tn = true := by
  have hv : tn.vars = tp.vars := by
    rw [PTerm.vars, h, varsL, List.map_map]
    rfl
  simp only [areOpposite, Bool.and_eq_true, List.all_eq_true, PTerm.containsVar_iff, hv]
  refine ⟨fun _ hx => hx, fun p hp => ⟨List.mem_map_of_mem hp, ?_⟩⟩
  rw [PTerm.coeff, h, coeffOf_negmap, coeffOf_sorted_mem hs.1 hp]
  exact approxEq_self

/-- a property of what the partner search returns follows from the property of `.le` and, for every member that passed
    the opposite test, of the rule whose tests it passed -/
theorem findFold_ind (tp : PTerm) (P : Fold → Prop) (h0 : P .le) (ts : TL)
    (h : ∀ tn ∈ ts, areOpposite tp tn = true →
      (approxEq tp.const (-tn.const) = true → P (.eq tn)) ∧
      (approxEq tp.const 0 = true → approxEq tn.const 0 = true → P (.abs0 tn)) ∧
      (approxEq tp.const tn.const = true → P (.absle tn))) : P (findFold tp ts) := by
  fun_induction findFold tp ts
  case case1 => exact h0
  case case2 ho h1 => exact (h _ List.mem_cons_self ho).1 h1
  case case3 ho _ h2 =>
    exact (h _ List.mem_cons_self ho).2.1 (Bool.and_eq_true_iff.mp h2).1 (Bool.and_eq_true_iff.mp h2).2
  case case4 ho _ _ h3 => exact (h _ List.mem_cons_self ho).2.2 h3
  case case5 ih | case6 ih => exact ih fun tn hm => h tn (List.mem_cons_of_mem _ hm)

theorem foldRest_sublist (ts : TL) (f : Fold) : (foldRest ts f).Sublist ts := by
  cases f
  · exact List.Sublist.refl _
  all_goals exact List.erase_sublist

end Serial
