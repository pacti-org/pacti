import Pacti.Proofs.Kay
import Pacti.Proofs.Except
/-! Soundness of tactic 3 (`_tactic_3`): the conflict part `Σ cⱼ·xⱼ` of the term is renamed to one auxiliary variable `w`,
    the context is rewritten accordingly (`x₀ := (w − Σ_{j>0} cⱼ·xⱼ)/c₀`), and tactic 1 is applied.  Sound as soon as `w`
    occurs nowhere in the term, the context and the variables to eliminate — which is how the source picks it
    (`Gen.tactic3Fresh`). -/

namespace Elim

theorem nodup_eraseDups (l : List Var) : l.eraseDups.Nodup := by
  induction h : l.length using Nat.strong_induction_on generalizing l with
  | _ n ih =>
    cases l with
    | nil => simp
    | cons a l =>
      rw [List.eraseDups_cons, List.nodup_cons]
      have hhead : a ∉ (l.filter fun b => !b == a).eraseDups := by simp [List.mem_eraseDups]
      have hshorter : (l.filter fun b => !b == a).length < n := h ▸ Nat.lt_succ_of_le (List.length_filter_le _ _)
      exact ⟨hhead, ih _ hshorter _ rfl⟩

theorem le_foldl_max : ∀ (l : List ℕ) (acc u : ℕ), u ≤ acc ∨ u ∈ l → u ≤ l.foldl max acc
  | [], _, _, h => h.elim id fun h => absurd h List.not_mem_nil
  | a :: l, acc, u, h => by
    refine le_foldl_max l (max acc a) u ?_
    rcases h with h | h
    · exact .inl (le_max_of_le_left h)
    · exact (List.mem_cons.mp h).elim (fun e => .inl (e ▸ le_max_right _ _)) .inr

theorem freshVar_fresh (t : PTerm) (H : TL) (xs : List Var) :
    freshVar t H xs ∉ t.vars ∧ (∀ el ∈ H, freshVar t H xs ∉ el.vars) ∧ freshVar t H xs ∉ xs := by
  have hb : ∀ u ∈ t.vars ++ TL.vars H ++ xs, u < freshVar t H xs := by
    intro u hu
    unfold freshVar
    exact Nat.lt_succ_of_le (le_foldl_max _ 0 u (.inr hu))
  refine ⟨fun h => ?_, fun el hel h => ?_, fun h => ?_⟩
  · exact absurd (hb _ (by simp [h])) (lt_irrefl _)
  · have : freshVar t H xs ∈ TL.vars H := TL.mem_vars.mpr ⟨el, hel, h⟩
    exact absurd (hb _ (by simp [this])) (lt_irrefl _)
  · exact absurd (hb _ (by simp [h])) (lt_irrefl _)

theorem evalL_neg_div_eq_zip (rest : List Var) (a : Var → ℚ) {c0 : ℚ} (v : Val) :
    evalL (rest.map fun u => (u, -(a u) / c0)) v = -(evalL (List.zip rest (rest.map a)) v) / c0 := by
  induction rest with
  | nil => simp [evalL]
  | cons u rest ih =>
    simp only [List.map_cons, List.zip_cons_cons, evalL, ih]
    ring

theorem tactic3_gains (hfresh : Gen.tactic3Fresh = true) {t : PTerm} {H : TL} {xs : List Var} {refine : Bool} {r : PTerm}
    (h : tactic3 t H xs refine = .ok (some r)) : Gains refine H t r := by
  unfold tactic3 at h
  split at h
  · cases h
  rename_i x0 rest hD
  simp only [guard_ok] at h
  obtain ⟨hc0, h⟩ := h
  have hw : auxVar t H xs = freshVar t H xs := by unfold auxVar; rw [hfresh]; rfl
  rw [hw] at h
  obtain ⟨hwt, hwH, hwxs⟩ := freshVar_fresh t H xs
  generalize freshVar t H xs = w at h hwt hwH hwxs
  have hDnd : (x0 :: rest).Nodup := hD ▸ nodup_eraseDups _
  have hDmem : ∀ u ∈ x0 :: rest, u ∈ xs := fun u hu => by
    rw [← hD, List.mem_eraseDups, Gen.mem_list_intersection] at hu
    exact hu.1
  have hx0w : x0 ≠ w := fun e => hwxs (e ▸ hDmem x0 List.mem_cons_self)
  have hwfilt : w ∉ varsL (t.coeffs.filter fun p => !decide (p.1 ∈ x0 :: rest)) := fun hm =>
    hwt (List.map_subset _ (List.filter_subset_self _) hm)
  have hwrest : w ∉ varsL (rest.map fun u => (u, -(t.coeff u) / t.coeff x0)) := by
    simp only [varsL, List.map_map, List.mem_map, Function.comp, not_exists, not_and]
    exact fun u hu e => hwxs (e ▸ hDmem u (List.mem_cons_of_mem _ hu))
  generalize hnt : PTerm.mk' ((t.coeffs.filter fun p => !decide (p.1 ∈ x0 :: rest)) ++ [(w, 1)]) t.const = nt at h
  generalize hsT : PTerm.mk' ((w, 1 / t.coeff x0) :: rest.map fun u => (u, -(t.coeff u) / t.coeff x0)) 0 = substT at h
  have hw_coeff : nt.coeff w = 1 := by
    rw [← hnt, coeff_mk', ← evalL_indVal, evalL_append, evalL_indVal, coeffOf_eq_zero_of_not_mem w _ hwfilt]
    simp [evalL, indVal]
  -- so `w` is among the variables that tactic 1 eliminates from the renamed term
  have hwmem : w ∈ Gen.list_intersection (Gen.list_diff (Gen.list_union xs [w]) [x0]) nt.vars := by
    rw [Gen.mem_list_intersection, Gen.mem_list_diff, Gen.mem_list_union]
    refine ⟨⟨.inr (List.mem_singleton.mpr rfl), by simpa using fun e => hx0w e.symm⟩, coeffOf_ne_zero_mem _ _ ?_⟩
    rw [← PTerm.coeff, hw_coeff]
    exact one_ne_zero
  have hz : r.coeff w = 0 := tactic1_coeff_zero h w hwmem
  intro v hH
  -- `w` stands for the conflict part `t.coeff x0 * v x0 + R` of the term; `v'` is `v` with `w` set accordingly
  have hS := evalL_zip_coeffs hDnd t.coeffs v
  simp only [List.map_cons, List.zip_cons_cons, evalL] at hS
  generalize hR : evalL (List.zip rest (rest.map fun u => coeffOf u t.coeffs)) v = R at hS
  generalize hv' : Function.update v w (t.coeff x0 * v x0 + R) = v'
  have hv'w : v' w = t.coeff x0 * v x0 + R := by rw [← hv', Function.update_self]
  -- the renamed term at `v'` is the term at `v`
  have h3 : expr nt v' = expr t v := by
    rw [← hnt, expr_mk', evalL_append, ← hv', evalL_update_of_not_mem hwfilt]
    simp only [evalL, Function.update_self]
    unfold expr PTerm.coeff
    linarith [hS]
  -- the substituted expression is `x0` again
  have hsubst : expr substT v' = v x0 := by
    rw [← hsT, expr_mk']
    simp only [evalL]
    rw [hv'w, ← hv', evalL_update_of_not_mem hwrest, evalL_neg_div_eq_zip rest (fun u => t.coeff u) v]
    have : evalL (List.zip rest (rest.map fun u => t.coeff u)) v = R := hR
    rw [this]
    field_simp
    ring
  -- the rewritten context holds at `v'`: every row is read at `v` again
  have hH' : TL.holds (H.map fun el => el.subst x0 substT) v' := by
    intro el' hel'
    obtain ⟨el, hel, rfl⟩ := List.mem_map.mp hel'
    rw [holds_iff_expr, expr_subst, hsubst, ← hv', Function.update_of_ne hx0w, sub_self, mul_zero, add_zero,
      ← holds_iff_expr, PTerm.holds_update_of_not_mem (hwH el hel)]
    exact hH el hel
  have h2 := tactic1_gains h v' hH'
  rwa [h3, ← hv', expr_update, hz, zero_mul, add_zero] at h2

theorem tactic3_sound (hfresh : Gen.tactic3Fresh = true) (t : PTerm) (H : TL) (xs : List Var) (refine : Bool) (r : PTerm)
    (h : tactic3 t H xs refine = .ok (some r)) :
    ∀ v, TL.holds H v → (if refine then (r.holds v → t.holds v) else (t.holds v → r.holds v)) :=
  (tactic3_gains hfresh h).sound

end Elim
