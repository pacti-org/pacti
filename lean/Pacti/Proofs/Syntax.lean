import Pacti.Model.Syntax
import Pacti.Proofs.Sem
import Mathlib.Tactic.Ring
/-! Lemmas for C09: the parse actions and the serializer are homomorphisms from trees to their values. -/
namespace Syntax

/-- what a parse action may do: return a value with the property `P`, or raise `ZeroDivisionError`.  Each parse
    action below gets one statement of this form, for every `nn` and `fold`; what it says of the value is soundness,
    under the hypothesis that the source is repaired (`nn = some 2`, `fold = true`). -/
def Post {α : Type} (P : α → Prop) : Except Err α → Prop
  | .ok a => P a
  | .error e => e = zeroDiv

section
variable {α : Type} {P Q : α → Prop} {x : Except Err α}

theorem Post.ok {a : α} (h : Post P x) (hx : x = .ok a) : P a := by
  rw [hx] at h
  exact h

theorem Post.error {e : Err} (h : Post P x) (hx : x = .error e) : e = zeroDiv := by
  rw [hx] at h
  exact h

theorem Post.mono (h : Post P x) (hPQ : ∀ a, P a → Q a) : Post Q x := by
  cases x with
  | ok a => exact hPQ a h
  | error e => exact h

end

-- explicit arguments, in this order, of every lemma below that mentions them
variable (nn : Option Rat) (fold : Bool)

theorem rabs_eq_abs (q : Rat) : rabs q = |q| := by
  fun_cases rabs q
  next h => rw [abs_of_neg h]
  next h => rw [abs_of_nonneg (not_lt.mp h)]

theorem Arith.evalW_true (a : Arith) : a.evalW true = a.eval := by
  induction a with
  | num q => rfl
  | _ a b iha ihb => rw [Arith.evalW, Arith.eval, iha, ihb]; rfl

theorem Arith.evalW_post (a : Arith) : Post (fun q => fold = true → a.val = q) (a.evalW fold) := by
  fun_induction Arith.evalW fold a
  case case1 => exact fun _ => rfl
  -- `add`, `sub`, `mul`, `div` are cases 2–5, 6–9, 10–13, 14–18; in each, first the chain cut short, which only the
  -- pinned actions do, then an error of the left operand, one of the right operand, the value
  case case2 h ih | case6 h ih | case10 h ih | case14 h ih => exact ih.mono fun q _ hf => by rw [hf] at h; cases h
  case case3 ih | case7 ih | case11 ih | case15 ih => exact ih.error ‹_›
  case case4 _ ih | case8 _ ih | case12 _ ih | case16 _ ih => exact ih.error ‹_›
  case case5 x hx y hy iha ihb | case9 x hx y hy iha ihb | case13 x hx y hy iha ihb | case18 x hx y hy _ iha ihb =>
    exact fun hf => by rw [Arith.val, iha.ok hx hf, ihb.ok hy hf]
  case case17 => exact rfl

theorem Arith.eval_val (a : Arith) (q : Rat) (h : a.eval = .ok q) : a.val = q :=
  (Arith.evalW_post true a).ok (Arith.evalW_true a ▸ h) rfl

theorem Arith.eval_err (a : Arith) : ∀ e, a.eval = .error e → e = zeroDiv :=
  fun _ h => (Arith.evalW_post true a).error (Arith.evalW_true a ▸ h)

namespace SynTL

theorem evalL_addFactor (fs : Lin) (x : Var) (c : Rat) (v : Val) :
    evalL (addFactor fs x c) v = evalL fs v + c * v x := by
  fun_induction addFactor fs x c
  · rw [evalL, evalL, evalL, add_zero, zero_add]
  next h => rw [evalL, add_right_comm, ← add_mul, h, zero_mul, zero_add]
  · rw [evalL, evalL, add_mul, add_right_comm]
  next ih => rw [evalL, evalL, ih, add_assoc]

theorem evalL_foldl_addFactor (o fs : Lin) (v : Val) :
    evalL (o.foldl (fun fs p => addFactor fs p.1 p.2) fs) v = evalL fs v + evalL o v := by
  induction o generalizing fs with
  | nil => exact (add_zero _).symm
  | cons p o ih => rw [List.foldl_cons, ih, evalL_addFactor, evalL, add_assoc]

@[simp] theorem eval_empty (v : Val) : eval empty v = 0 := zero_add 0

theorem eval_var (x : Var) (v : Val) : eval ⟨0, [(x, 1)]⟩ v = v x := by
  simp only [eval, evalL, one_mul, add_zero, zero_add]

theorem eval_const (q : Rat) (v : Val) : eval ⟨q, []⟩ v = q := add_zero q

theorem eval_negate (t : SynTL) (v : Val) : eval t.negate v = - eval t v := by
  rw [eval, negate, evalL_map_snd _ _ (-1) neg_eq_neg_one_mul, eval, neg_one_mul, neg_add]

theorem eval_add (s o : SynTL) (v : Val) : eval (s.add o) v = eval s v + eval o v := by
  rw [eval, add, evalL_foldl_addFactor, eval, eval, add_add_add_comm]

theorem eval_scale (t : SynTL) (k : Rat) (v : Val) : eval (t.scale k) v = k * eval t v := by
  rw [eval, scale, evalL_map_snd _ (· * k) k (mul_comm · k), eval, mul_add, mul_comm]

theorem eval_scaleF {t : SynTL} (h : t.const = 0) (k : Rat) (v : Val) : eval (t.scaleF k) v = k * eval t v := by
  rw [eval, scaleF, evalL_map_snd _ (· * k) k (mul_comm · k), eval, h, zero_add, zero_add]

theorem holds_toPTerm (t : SynTL) (v : Val) : (toPTerm t).holds v ↔ eval t v ≤ 0 := by
  show evalL (normC t.factors) v ≤ -t.const ↔ _
  rw [evalL_normC, eval, le_neg_iff_add_nonpos_left]

theorem holds_sub (a b : SynTL) (v : Val) : (a.add b.negate).toPTerm.holds v ↔ a.eval v ≤ b.eval v := by
  rw [holds_toPTerm, eval_add, eval_negate, ← sub_eq_add_neg, sub_nonpos]

theorem evalL_insF (p : Var × Rat) (l : Lin) (v : Val) : evalL (insF p l) v = p.2 * v p.1 + evalL l v := by
  fun_induction insF p l
  · rfl
  · rfl
  next ih => rw [evalL, ih, evalL, add_left_comm]

theorem evalL_foldr_insF (l : Lin) (v : Val) : evalL (l.foldr insF []) v = evalL l v := by
  induction l with
  | nil => simp [evalL]
  | cons p l ih => simp only [List.foldr_cons, evalL_insF, ih, evalL]

theorem eval_of_key_eq (a b : SynTL) (h : a.key = b.key) (v : Val) : eval a v = eval b v := by
  obtain ⟨hc, hf⟩ := Prod.mk.inj h
  rw [eval, eval, hc, ← evalL_foldr_insF a.factors, hf, evalL_foldr_insF]

end SynTL

/-- a conditional negation is `sgn`, for anything whose value `negate` negates (term lists, absolute terms, lists of them) -/
theorem sgn_of_negate {α : Type} (ev : α → Rat) {ng : α → α} (h : ∀ x, ev (ng x) = - ev x) (neg : Bool) (x : α) :
    ev (if neg then ng x else x) = sgn neg (ev x) := by
  cases neg
  · rfl
  · exact h x

theorem Tm.tr_trAcc_post :
    (∀ t : Tm, Post (fun tl => fold = true → ∀ v, tl.eval v = t.den v) (t.tr fold)) ∧
      ∀ (ts : Tms) (acc : SynTL),
        Post (fun tl => fold = true → ∀ v, tl.eval v = acc.eval v + ts.den v) (ts.trAcc fold acc) := by
  -- the branches of `Tm.tr`, then those of `Tms.trAcc`, in the order of the definitions
  apply Tm.tr.mutual_induct_unfolding fold
  · exact fun x _ v => by rw [SynTL.eval_var, Tm.den]
  · exact fun k _ _ hk => (Arith.evalW_post fold k).error hk
  · exact fun k x q hk hf v => by rw [SynTL.eval_scaleF rfl, SynTL.eval_var, Tm.den, (Arith.evalW_post fold k).ok hk hf]
  · exact fun k _ _ hk => (Arith.evalW_post fold k).error hk
  · exact fun _ ts _ _ _ hts ih => ih.error hts
  · exact fun k ts q hk tl hts ih hf v => by
      rw [SynTL.eval_scale, ih.ok hts hf v, SynTL.eval_empty, zero_add, Tm.den, (Arith.evalW_post fold k).ok hk hf]
  · exact fun ts ih => ih.mono fun tl h hf v => by rw [h hf v, SynTL.eval_empty, zero_add, Tm.den]
  · exact fun k _ hk => (Arith.evalW_post fold k).error hk
  · exact fun k q hk hf v => by rw [SynTL.eval_const, Tm.den, (Arith.evalW_post fold k).ok hk hf]
  · exact fun acc _ v => by rw [Tms.den, add_zero]
  · exact fun _ t _ _ _ ht ih => ih.error ht
  · exact fun neg t r acc tl' ht iht ihr => ihr.mono fun tl h hf v => by
      rw [h hf v, SynTL.eval_add, sgn_of_negate (·.eval v) (SynTL.eval_negate · v), iht.ok ht hf v, Tms.den, add_assoc]

theorem Tm.tr_post (t : Tm) : Post (fun tl => fold = true → ∀ v, tl.eval v = t.den v) (t.tr fold) :=
  (Tm.tr_trAcc_post fold).1 t

theorem Tms.tr_post (ts : Tms) : Post (fun tl => fold = true → ∀ v, tl.eval v = ts.den v) (ts.tr fold) :=
  ((Tm.tr_trAcc_post fold).2 ts SynTL.empty).mono fun _ h hf v => (h hf v).trans (by rw [SynTL.eval_empty, zero_add])

def coefVal : Option Rat → Rat
  | none => 1
  | some c => c

/-- value of `[c]·|term list|` at a point -/
def AbsTerm.eval (a : AbsTerm) (v : Val) : Rat := coefVal a.coeff * |a.tl.eval v|

def absSum : List AbsTerm → Val → Rat
  | [], _ => 0
  | a :: r, v => a.eval v + absSum r v

/-- the printed forms of the entries -/
def keys (l : List AbsTerm) : List (Rat × Lin) := l.map fun a => a.tl.key

theorem absSum_append (a b : List AbsTerm) (v : Val) : absSum (a ++ b) v = absSum a v + absSum b v := by
  induction a with
  | nil => simp [absSum]
  | cons x a ih => simp only [List.cons_append, absSum, ih]; ring

theorem AbsTerm.negate_tl (a : AbsTerm) : a.negate.tl = a.tl := by
  unfold AbsTerm.negate
  cases a.coeff <;> rfl

theorem AbsTerm.negate_coefVal (a : AbsTerm) : coefVal a.negate.coeff = - coefVal a.coeff := by
  unfold AbsTerm.negate
  cases a.coeff <;> simp [coefVal]

theorem AbsTerm.eval_negate (a : AbsTerm) (v : Val) : a.negate.eval v = - a.eval v := by
  rw [AbsTerm.eval, AbsTerm.negate_coefVal, AbsTerm.negate_tl, neg_mul, AbsTerm.eval]

theorem AbsTerm.same_iff (a t : AbsTerm) : a.same t = true ↔ a.tl.key = t.tl.key := by
  simp [AbsTerm.same]

theorem AbsTerm.eval_toTL (a : AbsTerm) (v : Val) : a.toTL.eval v = coefVal a.coeff * a.tl.eval v := by
  rw [AbsTerm.toTL, SynTL.eval, evalL_map_snd _ _ _ (fun _ => rfl), ← mul_add]
  rfl

theorem coefVal_combine (c1 c2 : Option Rat) : coefVal (combineOptional (some 2) c1 c2) = coefVal c1 + coefVal c2 := by
  cases c1 <;> cases c2
  · exact one_add_one_eq_two.symm
  · exact add_comm _ _
  · rfl
  · rfl

theorem any_same_iff (l : List AbsTerm) (t : AbsTerm) : l.any (fun a => a.same t) = true ↔ t.tl.key ∈ keys l := by
  simp only [List.any_eq_true, keys, List.mem_map, AbsTerm.same_iff]

theorem keys_map {g : AbsTerm → AbsTerm} (hg : ∀ a, (g a).tl = a.tl) (l : List AbsTerm) : keys (l.map g) = keys l := by
  rw [keys, keys, List.map_map]
  exact List.map_congr_left fun a _ => congrArg SynTL.key (hg a)

theorem absSum_map {g : AbsTerm → AbsTerm} (k : Rat) (v : Val) (hg : ∀ a, (g a).eval v = k * a.eval v) (l : List AbsTerm) :
    absSum (l.map g) v = k * absSum l v := by
  induction l with
  | nil => exact (mul_zero k).symm
  | cons a r ih => rw [List.map_cons, absSum, absSum, ih, hg, mul_add]

theorem map_combine_of_not_mem {nn : Option Rat} {l : List AbsTerm} {t : AbsTerm} (h : t.tl.key ∉ keys l) :
    (l.map fun a => if a.same t then (⟨a.tl, combineOptional nn a.coeff t.coeff⟩ : AbsTerm) else a) = l := by
  have hne : ∀ a ∈ l, ¬ a.same t = true := fun a ha hs => h ((AbsTerm.same_iff a t).mp hs ▸ List.mem_map_of_mem ha)
  exact (List.map_congr_left fun a ha => if_neg (hne a ha)).trans (List.map_id l)

theorem combineOrAppend_of_not_mem {nn : Option Rat} {l : List AbsTerm} {t : AbsTerm} (h : t.tl.key ∉ keys l) :
    combineOrAppend nn l t = l ++ [t] := by
  unfold combineOrAppend
  rw [if_neg (fun h' => h ((any_same_iff l t).mp h')), map_combine_of_not_mem h]

theorem combineOrAppend_of_mem {nn : Option Rat} {l : List AbsTerm} {t : AbsTerm} (h : t.tl.key ∈ keys l) :
    combineOrAppend nn l t = l.map fun a => if a.same t then ⟨a.tl, combineOptional nn a.coeff t.coeff⟩ else a := by
  unfold combineOrAppend
  rw [if_pos ((any_same_iff l t).mpr h)]

/-- with the repaired `(None, None)` case the matching entry (there is one, and by `Nodup` only one) gains the
    coefficient of the new term -/
theorem absSum_map_combine_of_mem {l : List AbsTerm} {t : AbsTerm} (v : Val) (h : (keys l).Nodup) (hin : t.tl.key ∈ keys l) :
    absSum (l.map fun a => if a.same t then (⟨a.tl, combineOptional (some 2) a.coeff t.coeff⟩ : AbsTerm) else a) v
      = absSum l v + t.eval v := by
  induction l with
  | nil => cases hin
  | cons a r ih =>
    rw [keys, List.map_cons, List.nodup_cons] at h
    rw [List.map_cons, absSum, absSum]
    by_cases hs : a.same t = true
    · have hk := (AbsTerm.same_iff a t).mp hs
      rw [if_pos hs, map_combine_of_not_mem (hk ▸ h.1), AbsTerm.eval, coefVal_combine, AbsTerm.eval, AbsTerm.eval,
        SynTL.eval_of_key_eq a.tl t.tl hk v, add_mul, add_right_comm]
    · have hr := (List.mem_cons.mp hin).resolve_left fun h' => hs ((AbsTerm.same_iff a t).mpr h'.symm)
      rw [if_neg hs, ih h.2 hr, add_assoc]

theorem AbsTerm.eval_scale (a : AbsTerm) (f : Rat) (v : Val) : (a.scale f).eval v = f * a.eval v := by
  unfold AbsTerm.scale AbsTerm.eval
  cases a.coeff <;> simp only [coefVal] <;> ring

def ATL.eval (a : ATL) (v : Val) : Rat := a.tl.eval v + absSum a.abs v

@[simp] theorem ATL.eval_empty (v : Val) : ATL.empty.eval v = 0 := by simp [ATL.eval, ATL.empty, absSum]

theorem ATL.eval_negate (a : ATL) (v : Val) : a.negate.eval v = - a.eval v := by
  rw [ATL.eval, ATL.negate, SynTL.eval_negate, absSum_map (-1) v fun a => (AbsTerm.eval_negate a v).trans (neg_one_mul _).symm,
    neg_one_mul, ← neg_add, ATL.eval]

theorem ATL.eval_scale (a : ATL) (f : Rat) (v : Val) : (a.scale f).eval v = f * a.eval v := by
  rw [ATL.eval, ATL.scale, SynTL.eval_scale, absSum_map f v (AbsTerm.eval_scale · f v), ← mul_add, ATL.eval]

/-- `a` is well formed and has the value `f` everywhere.  Every operation that builds an absolute-term list keeps
    this, with the evident `f`; well-formedness is what `add` needs of its left argument only. -/
structure Rep (a : ATL) (f : Val → Rat) : Prop where
  /-- no two entries print the same (what `_combine_or_append` maintains) -/
  wf : (keys a.abs).Nodup
  eval : ∀ v, a.eval v = f v

section
variable {a b : ATL} {f g : Val → Rat}

theorem Rep.empty : Rep ATL.empty fun _ => 0 := ⟨List.nodup_nil, ATL.eval_empty⟩

theorem Rep.congr (h : Rep a f) (hfg : ∀ v, f v = g v) : Rep a g := ⟨h.wf, fun v => (h.eval v).trans (hfg v)⟩

theorem Rep.add_tl (h : Rep a f) (t : SynTL) : Rep ⟨a.tl.add t, a.abs⟩ fun v => f v + t.eval v :=
  ⟨h.wf, fun v => by rw [← h.eval, ATL.eval, ATL.eval, SynTL.eval_add, add_right_comm]⟩

theorem Rep.add_abs {nn : Option Rat} (h : Rep a f) (hnn : nn = some 2) (t : AbsTerm) :
    Rep ⟨a.tl, combineOrAppend nn a.abs t⟩ fun v => f v + t.eval v := by
  subst hnn
  by_cases hin : t.tl.key ∈ keys a.abs
  · -- an entry prints like `t`: it gains the coefficient of `t`
    rw [combineOrAppend_of_mem hin]
    constructor
    · rw [keys_map fun a => by split <;> rfl]
      exact h.wf
    · intro v
      rw [← h.eval, ATL.eval, ATL.eval, absSum_map_combine_of_mem v h.wf hin, add_assoc]
  · -- none does: `t` is appended
    rw [combineOrAppend_of_not_mem hin]
    constructor
    · rw [keys, List.map_append]
      exact List.nodup_append.mpr ⟨h.wf, List.pairwise_singleton _ _, fun a ha b (hb : b ∈ [t.tl.key]) hab =>
        hin (List.mem_singleton.mp hb ▸ hab ▸ ha)⟩
    · intro v
      rw [← h.eval, ATL.eval, ATL.eval, absSum_append, absSum, absSum, add_zero, add_assoc]

theorem Rep.foldl_abs {nn : Option Rat} (h : Rep a f) (hnn : nn = some 2) (o : List AbsTerm) :
    Rep ⟨a.tl, o.foldl (combineOrAppend nn) a.abs⟩ fun v => f v + absSum o v := by
  induction o generalizing a f with
  | nil => exact h.congr fun v => (add_zero _).symm
  | cons t o ih => exact (ih (h.add_abs hnn t)).congr fun v => by rw [absSum, add_assoc]

/-- `add`: the absolute terms of `b` one by one, then its term list -/
theorem Rep.add {nn : Option Rat} (ha : Rep a f) (hnn : nn = some 2) (hb : ∀ v, b.eval v = g v) :
    Rep (a.add nn b) fun v => f v + g v :=
  ((ha.foldl_abs hnn b.abs).add_tl b.tl).congr fun v => by rw [← hb, ATL.eval, add_assoc, add_comm (absSum _ _)]

theorem Rep.negate (ha : Rep a f) : Rep a.negate fun v => - f v :=
  ⟨by rw [ATL.negate, keys_map AbsTerm.negate_tl]; exact ha.wf, fun v => by rw [ATL.eval_negate, ha.eval]⟩

end

theorem evalOpt_post (k : Option Arith) : Post (fun c => fold = true → kval k = coefVal c) (evalOpt fold k) := by
  fun_cases evalOpt fold k
  · exact fun _ => rfl
  · exact (Arith.evalW_post fold _).error ‹_›
  · exact (Arith.evalW_post fold _).ok ‹_›

def Piece.eval : Piece → Val → Rat
  | .tl t, v => t.eval v
  | .abs a, v => a.eval v

theorem Item.tr_post (i : Item) : Post (fun p => fold = true → ∀ v, p.eval v = i.den v) (i.tr fold) := by
  fun_cases Item.tr fold i
  · exact (evalOpt_post fold _).error ‹_›
  · exact (Tms.tr_post fold _).error ‹_›
  next k body c hk tl hb _ =>
    exact fun hf v => by
      rw [Piece.eval, sgn_of_negate (·.eval v) (AbsTerm.eval_negate · v), AbsTerm.eval, Item.den,
        (Tms.tr_post fold body).ok hb hf v, (evalOpt_post fold k).ok hk hf, rabs_eq_abs]
  · exact (Tm.tr_post fold _).error ‹_›
  · exact fun hf v => by
      rw [Piece.eval, sgn_of_negate (·.eval v) (SynTL.eval_negate · v), (Tm.tr_post fold _).ok ‹_› hf v, Item.den]

theorem groupBody_post (items : List Item) (acc : ATL) :
    Post (fun g => nn = some 2 → fold = true → ∀ f, Rep acc f → Rep g fun v => f v + itemsDen items v)
      (groupBody nn fold items acc) := by
  fun_induction groupBody nn fold items acc
  · exact fun _ _ f hacc => hacc.congr fun v => by rw [itemsDen, add_zero]
  · exact (Item.tr_post fold _).error ‹_›
  next i r acc t hi ih =>
    -- the item is a term list `t`
    refine ih.mono fun g hg hnn hf f hacc => ?_
    have hi' : ∀ v, t.eval v = i.den v := (Item.tr_post fold i).ok hi hf
    exact (hg hnn hf _ (hacc.add_tl t)).congr fun v => by rw [itemsDen, ← hi' v, add_assoc]
  next i r acc a hi ih =>
    -- the item is an absolute term `a`
    refine ih.mono fun g hg hnn hf f hacc => ?_
    have hi' : ∀ v, a.eval v = i.den v := (Item.tr_post fold i).ok hi hf
    exact (hg hnn hf _ (hacc.add_abs hnn a)).congr fun v => by rw [itemsDen, ← hi' v, add_assoc]

/-- a single item is read as a group of one -/
theorem SItem.tr_item (i : Item) : SItem.tr nn fold (.item i) = groupBody nn fold [i] ATL.empty := by
  rw [SItem.tr, groupBody]
  split <;> rfl

theorem SItem.tr_post (i : SItem) :
    Post (fun a => nn = some 2 → fold = true → ∀ v, a.eval v = i.den v) (i.tr nn fold) := by
  cases i with
  | item i =>
    rw [SItem.tr_item]
    exact (groupBody_post nn fold [i] ATL.empty).mono fun a h hnn hf v =>
      ((h hnn hf _ Rep.empty).eval v).trans (by rw [itemsDen, itemsDen, zero_add, add_zero, SItem.den])
  | group neg k items =>
    rw [SItem.tr]
    split
    · exact (evalOpt_post fold k).error ‹_›
    next c hk =>
      split
      · exact (groupBody_post nn fold items _).error ‹_›
      next g hg =>
        intro hnn hf v
        have hgv : g.eval v = itemsDen items v :=
          (((groupBody_post nn fold items _).ok hg hnn hf _ Rep.empty).eval v).trans (zero_add _)
        -- the group, scaled and negated, is added to the empty list
        rw [(Rep.empty.add hnn fun _ => rfl).eval, zero_add, sgn_of_negate (·.eval v) (ATL.eval_negate · v), SItem.den,
          (evalOpt_post fold k).ok hk hf]
        -- the multiplier: absent (`coefVal none = 1`) or applied by `ATL.scale`
        cases c
        · rw [hgv, coefVal, one_mul]
        · rw [ATL.eval_scale, hgv, coefVal]

theorem sideAcc_post (s : Side) (acc : ATL) :
    Post (fun r => nn = some 2 → fold = true → ∀ f, Rep acc f → Rep r fun v => f v + sideDen s v) (sideAcc nn fold s acc) := by
  fun_induction sideAcc nn fold s acc
  · exact fun _ _ f hacc => hacc.congr fun v => by rw [sideDen, add_zero]
  · exact (SItem.tr_post nn fold _).error ‹_›
  next i rest acc a hi ih =>
    refine ih.mono fun r hr hnn hf f hacc => ?_
    have hi' : ∀ v, a.eval v = i.den v := (SItem.tr_post nn fold i).ok hi hnn hf
    exact (hr hnn hf _ (hacc.add hnn hi')).congr fun v => by rw [sideDen, add_assoc]

theorem sideTr_post (s : Side) :
    Post (fun a => nn = some 2 → fold = true → Rep a (sideDen s)) (sideTr nn fold s) :=
  (sideAcc_post nn fold s ATL.empty).mono fun _ h hnn hf => (h hnn hf _ Rep.empty).congr fun _ => zero_add _

theorem sidesTr_post (ss : List Side) :
    Post (fun l => nn = some 2 → fold = true → List.Forall₂ (fun s a => Rep a (sideDen s)) ss l) (sidesTr nn fold ss) := by
  fun_induction sidesTr nn fold ss
  · exact fun _ _ => .nil
  · exact (sideTr_post nn fold _).error ‹_›
  next ih => exact ih.error ‹_›
  next s r a hs l hr ih => exact fun hnn hf => .cons ((sideTr_post nn fold s).ok hs hnn hf) (ih.ok hr hnn hf)

theorem isPositive_iff (a : AbsTerm) : a.isPositive = true ↔ 0 < coefVal a.coeff := by
  unfold AbsTerm.isPositive
  cases a.coeff with
  | none => exact iff_of_true rfl one_pos
  | some c => exact decide_eq_true_iff

/-- one absolute value, two signs: `m·|e|` is the larger of `m·e` and `-m·e` -/
theorem add_mul_abs_le_iff {m : Rat} (hm : 0 ≤ m) {X e S : Rat} :
    X + m * |e| + S ≤ 0 ↔ X + m * e + S ≤ 0 ∧ X + -m * e + S ≤ 0 := by
  rw [abs_eq_max_neg, mul_max_of_nonneg _ _ hm, ← max_add_add_left, ← max_add_add_right, max_le_iff, mul_neg, neg_mul]

theorem forall_signs_succ (n : Nat) (P : List Bool → Prop) :
    (∀ sg ∈ signs (n + 1), P sg) ↔ (∀ sg ∈ signs n, P (true :: sg)) ∧ (∀ sg ∈ signs n, P (false :: sg)) := by
  simp only [signs, List.forall_mem_append, List.forall_mem_map]

theorem abs_expand_nonneg (l : List AbsTerm) (hpos : ∀ a ∈ l, 0 ≤ coefVal a.coeff) (c : SynTL) (B : Rat) (v : Val) :
    (∀ sg ∈ signs l.length, B + (comboOf l sg c).eval v ≤ 0) ↔ B + c.eval v + absSum l v ≤ 0 := by
  induction l generalizing c with
  | nil => simp only [List.length_nil, signs, List.forall_mem_singleton, comboOf, absSum, add_zero]
  | cons a r ih =>
    have hr : ∀ b ∈ r, 0 ≤ coefVal b.coeff := fun b hb => hpos b (List.mem_cons_of_mem _ hb)
    rw [List.length_cons, forall_signs_succ]
    refine (and_congr (ih hr (c.add a.toTL)) (ih hr (c.add a.negate.toTL))).trans ?_
    rw [SynTL.eval_add, SynTL.eval_add, AbsTerm.eval_toTL, AbsTerm.eval_toTL,
      AbsTerm.negate_coefVal, AbsTerm.negate_tl, absSum, AbsTerm.eval]
    simp only [← add_assoc]
    exact (add_mul_abs_le_iff (hpos a List.mem_cons_self)).symm

/-- `abs_expand`: with positive coefficients, `B + c + Σ mᵢ·|eᵢ| ≤ 0` iff every sign pattern satisfies the linear
    inequality (the tuples are those of `itertools.product([True, False], repeat=n)`, in that order) -/
theorem abs_expand (l : List AbsTerm) (hpos : ∀ a ∈ l, a.isPositive = true) (c : SynTL) (B : Rat) (v : Val) :
    (∀ sg ∈ signs l.length, B + (comboOf l sg c).eval v ≤ 0) ↔ B + c.eval v + absSum l v ≤ 0 :=
  abs_expand_nonneg l (fun a ha => ((isPositive_iff a).mp (hpos a ha)).le) c B v

theorem expand_sound (d : ATL) (hpos : checkAbs d.abs = true) (v : Val) :
    TL.holds ((expand d).map SynTL.toPTerm) v ↔ d.eval v ≤ 0 := by
  fun_cases expand d
  next h0 =>
    rw [ATL.eval, List.length_eq_zero_iff.mp h0, absSum, add_zero, List.map_singleton, TL.holds_singleton,
      SynTL.holds_toPTerm]
  · have := abs_expand d.abs (List.all_eq_true.mp hpos) SynTL.empty (d.tl.eval v) v
    rw [SynTL.eval_empty, add_zero] at this
    rw [ATL.eval, ← this, combos, List.map_map, List.map_map]
    unfold TL.holds
    rw [List.forall_mem_map]
    exact forall₂_congr fun sg _ => (SynTL.holds_toPTerm _ v).trans (by rw [SynTL.eval_add])

theorem convert_eq (ds : List ATL) :
    convert ds = if ds.all (fun d => checkAbs d.abs) then .ok (ds.flatMap fun d => (expand d).map SynTL.toPTerm)
      else .error .convex := by
  induction ds with
  | nil => rfl
  | cons d r ih =>
    rw [convert, ih, List.all_cons, List.flatMap_cons]
    cases checkAbs d.abs <;> cases r.all (fun d => checkAbs d.abs) <;> rfl

theorem convert_sound {ds : List ATL} {ts : TL} (h : convert ds = .ok ts) (v : Val) :
    TL.holds ts v ↔ ∀ d ∈ ds, d.eval v ≤ 0 := by
  rw [convert_eq] at h
  split at h
  · rename_i hall
    cases h
    rw [TL.holds_flatMap]
    exact forall₂_congr fun d hd => expand_sound d (List.all_eq_true.mp hall d hd) v
  · cases h

theorem convert_error_iff (ds : List ATL) (e : Err) :
    convert ds = .error e ↔ e = .convex ∧ ∃ d ∈ ds, checkAbs d.abs = false := by
  have : (ds.all fun d => checkAbs d.abs) = false ↔ ∃ d ∈ ds, checkAbs d.abs = false := by
    simp only [List.all_eq_false, Bool.not_eq_true]
  rw [convert_eq, ← this]
  cases ds.all fun d => checkAbs d.abs <;> simp [eq_comm]

theorem not_isPositive_iff (a : AbsTerm) : ¬ a.isPositive = true ↔ ∃ c, a.coeff = some c ∧ c ≤ 0 := by
  unfold AbsTerm.isPositive
  cases a.coeff <;> simp

theorem checkAbs_false_iff (l : List AbsTerm) :
    checkAbs l = false ↔ ∃ a ∈ l, ∃ c, a.coeff = some c ∧ c ≤ 0 := by
  rw [checkAbs, List.all_eq_false]
  exact exists_congr fun a => and_congr_right fun _ => not_isPositive_iff a

/-- both chains in one induction: the two loops of the serializer differ only in which side they negate -/
theorem diffs_sound {nn : Option Rat} (hnn : nn = some 2) {s : Side} {ss : List Side} {a : ATL} {l : List ATL}
    (h : List.Forall₂ (fun s a => Rep a (sideDen s)) (s :: ss) (a :: l)) (v : Val) :
    ((∀ d ∈ diffsLeq nn a l, d.eval v ≤ 0) ↔ chainLe (sideDen s v) (ss.map (sideDen · v))) ∧
      ((∀ d ∈ diffsGeq nn a l, d.eval v ≤ 0) ↔ chainGe (sideDen s v) (ss.map (sideDen · v))) := by
  cases h with
  | cons hs h =>
    induction h generalizing s a with
    | nil =>
      simp only [diffsLeq, diffsGeq, List.not_mem_nil, false_imp_iff, implies_true, List.map_nil, chainLe, chainGe,
        and_self]
    | cons hb _ ih =>
      simp only [diffsLeq, diffsGeq, List.forall_mem_cons, List.map_cons, chainLe, chainGe]
      -- `a <= b` is converted as `a - b <= 0`, `a >= b` as `-a + b <= 0`
      rw [(ih hb).1, (ih hb).2, (hs.add hnn hb.negate.eval).eval, ← sub_eq_add_neg, sub_nonpos,
        (hs.negate.add hnn hb.eval).eval, neg_add_eq_sub, sub_nonpos]
      exact ⟨Iff.rfl, Iff.rfl⟩

theorem moved_post (e : Expr) :
    Post (fun ds => nn = some 2 → fold = true → (∀ l r, e ≠ .eq l r) → ∀ v, (∀ d ∈ ds, d.eval v ≤ 0) ↔ denote e v)
      (moved nn fold e) := by
  fun_cases moved nn fold e
  case case1 l r => exact fun _ _ he => absurd rfl (he l r)
  -- `leq` is cases 2–4, `geq` cases 5–7
  case case2 a l hs | case5 a l hs =>
    intro hnn hf _ v
    obtain ⟨hle, hge⟩ := diffs_sound hnn ((sidesTr_post nn fold _).ok hs hnn hf) v
    -- the goal is `hle` for `leq`, `hge` for `geq`
    assumption
  case case3 hs | case6 hs =>
    -- no side at all: two or more went in, and `Forall₂` keeps the length
    exact fun hnn hf => nomatch (sidesTr_post nn fold _).ok hs hnn hf
  case case4 | case7 => exact (sidesTr_post nn fold _).error ‹_›

theorem translate_error_inv (e : Expr) (k : Err) (h : translate nn fold e = .error k) :
    k = zeroDiv ∨ k = .convex ∧
      ∃ ds, moved nn fold e = .ok ds ∧ ∃ d ∈ ds, ∃ a ∈ d.abs, ∃ c, a.coeff = some c ∧ c ≤ 0 := by
  revert h
  fun_cases translate nn fold e
  -- an equality: one of its sides raises
  case case1 | case2 =>
    rintro ⟨⟩
    exact .inl ((Tms.tr_post fold _).error ‹_›)
  case case3 => nofun
  -- `leq`, `geq`: `moved` raises, or `convert` does
  case case4 | case6 =>
    rintro ⟨⟩
    exact .inl ((moved_post nn fold _).error ‹_›)
  case case5 ds hm | case7 ds hm =>
    intro h
    obtain ⟨hk, d, hd, hc⟩ := (convert_error_iff ds k).mp h
    exact .inr ⟨hk, ds, hm, d, hd, (checkAbs_false_iff d.abs).mp hc⟩

theorem unsound_at {nn : Option Rat} {fold : Bool} {e : Expr} {ts : TL} (v : Val) (hp : translate nn fold e = .ok ts)
    (hl : TL.holds ts v) (hd : ¬ denote e v) : ∃ e ts v, translate nn fold e = .ok ts ∧ ¬ (TL.holds ts v ↔ denote e v) :=
  ⟨e, ts, v, hp, fun h => hd (h.mp hl)⟩

end Syntax
