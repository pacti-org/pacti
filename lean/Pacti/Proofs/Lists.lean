import Pacti.Gen.Lists
import Mathlib.Logic.Basic
/-! Membership characterisations of the *generated* list operations (re-proved whenever lists.py changes). -/

namespace Gen
variable {α : Type} [DecidableEq α]

@[simp] theorem mem_list_intersection {a b : List α} {x : α} : x ∈ list_intersection a b ↔ x ∈ a ∧ x ∈ b := by
  simp [list_intersection]

@[simp] theorem mem_list_diff {a b : List α} {x : α} : x ∈ list_diff a b ↔ x ∈ a ∧ x ∉ b := by
  simp [list_diff]

@[simp] theorem mem_list_union {a b : List α} {x : α} : x ∈ list_union a b ↔ x ∈ a ∨ x ∈ b := by
  by_cases h : x ∈ a <;> simp [list_union, h]

theorem forall_mem_list_union {p : α → Prop} {a b : List α} :
    (∀ t ∈ list_union a b, p t) ↔ (∀ t ∈ a, p t) ∧ ∀ t ∈ b, p t := by
  simp only [mem_list_union, or_imp, forall_and]

theorem list_union_length_eq_zero (a b : List α)
    (h : (list_union a b).length = 0) : a = [] ∧ b = [] := by
  have hn : ∀ x, x ∉ list_union a b := by
    rw [List.length_eq_zero_iff.mp h]; exact fun _ => List.not_mem_nil
  constructor <;> refine List.eq_nil_iff_forall_not_mem.mpr fun x hx => hn x (mem_list_union.mpr ?_)
  · exact Or.inl hx
  · exact Or.inr hx

theorem list_diff_nil (l : List α) : list_diff l [] = l := by
  simp [list_diff]

/-- the variables of a term list (`TermList.vars`: a fold of `list_union`) are those of its terms -/
theorem mem_foldl_union {β : Type} {f : β → List α} {l : List β} {acc : List α} {x : α} :
    x ∈ l.foldl (fun acc t => list_union acc (f t)) acc ↔ x ∈ acc ∨ ∃ t ∈ l, x ∈ f t := by
  induction l generalizing acc with
  | nil => simp
  | cons t l ih => simp only [List.foldl_cons, ih, mem_list_union, List.mem_cons, exists_eq_or_imp, or_assoc]

theorem list_diff_isEmpty_iff {a b : List α} : (list_diff a b).isEmpty = true ↔ ∀ x ∈ a, x ∈ b := by
  simp only [List.isEmpty_iff, List.eq_nil_iff_forall_not_mem, mem_list_diff, not_and, not_not]

theorem list_intersection_isEmpty_iff {a b : List α} : (list_intersection a b).isEmpty = true ↔ ∀ x ∈ a, x ∉ b := by
  simp only [List.isEmpty_iff, List.eq_nil_iff_forall_not_mem, mem_list_intersection, not_and]

/-- `get_terms_with_vars`: the members whose variable list meets `xs` -/
theorem mem_filter_meets {β : Type} {f : β → List α} {l : List β} {xs : List α} {t : β} :
    t ∈ l.filter (fun t => !(list_intersection (f t) xs).isEmpty) ↔ t ∈ l ∧ ∃ x ∈ f t, x ∈ xs := by
  simp only [List.mem_filter, Bool.not_eq_eq_eq_not, Bool.not_true, ← Bool.not_eq_true, list_intersection_isEmpty_iff,
    not_forall, not_not, exists_prop]

theorem lists_equal_iff (a b : List α) : lists_equal a b = true ↔ (∀ x, x ∈ a ↔ x ∈ b) := by
  simp only [lists_equal, Bool.and_eq_true, decide_eq_true_eq, List.length_eq_zero_iff, ← List.isEmpty_iff,
    list_diff_isEmpty_iff, iff_iff_implies_and_implies, forall_and]

theorem list_diff_nodup (a b : List α) (h : a.Nodup) : (list_diff a b).Nodup := by
  unfold list_diff
  exact h.filter _

theorem list_intersection_nodup (a b : List α) (h : a.Nodup) : (list_intersection a b).Nodup := by
  unfold list_intersection
  exact h.filter _

theorem list_union_nodup (a b : List α) (ha : a.Nodup) (hb : b.Nodup) : (list_union a b).Nodup := by
  refine List.nodup_append.mpr ⟨ha, hb.filter _, fun x hx y hy hxy => ?_⟩
  subst hxy
  simpa [hx] using (List.mem_filter.mp hy).2

theorem foldl_union_nodup {β : Type} (f : β → List α) (l : List β) (acc : List α) (hacc : acc.Nodup)
    (h : ∀ t ∈ l, (f t).Nodup) : (l.foldl (fun acc t => list_union acc (f t)) acc).Nodup := by
  induction l generalizing acc with
  | nil => exact hacc
  | cons t l ih =>
    exact ih _ (list_union_nodup _ _ hacc (h t List.mem_cons_self)) fun t' ht' => h t' (List.mem_cons_of_mem _ ht')

end Gen
