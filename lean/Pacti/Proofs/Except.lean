/-! A guard of the modelled functions, `if c then .error e else x` (Python's `if c: raise E`), and `Except.map`.

Most inversions go through the case principle of the function (`fun_cases`); `guard_ok` serves where a definition is unfolded
instead: as a `simp only` rewrite it returns all the guards of a function at once, and `split at h` on such an `if`
re-simplifies the whole of `h`, which is slow on the body of a long function. -/

theorem guard_ok {ε α : Type} {c : Prop} [Decidable c] {e : ε} {x : Except ε α} {r : α} :
    (if c then .error e else x) = .ok r ↔ ¬ c ∧ x = .ok r := by
  split <;> simp [*]

theorem Except.map_eq_ok {ε α β : Type} {f : α → β} {x : Except ε α} {b : β} :
    x.map f = .ok b ↔ ∃ a, x = .ok a ∧ f a = b := by
  cases x <;> simp [Except.map]

theorem Except.map_eq_error {ε α β : Type} {f : α → β} {x : Except ε α} {e : ε} :
    x.map f = .error e ↔ x = .error e := by
  cases x <;> simp [Except.map]
