import Pacti.Model.Poly
import Pacti.Proofs.Sem
import Pacti.Proofs.Lists
import Pacti.Proofs.Eval
import Pacti.Proofs.LP
/-! `is_polytope_empty`, `verify_polytope_containment` and `refines` under a certified oracle; `Proper`
    terms; the `b+1` trick (`relax_by_one`, `lp_relaxed`). -/

/-- a fraction `t` of a step `d > 0` that gains something, but less than 1: `t = 1/(1+d)` -/
theorem exists_small_step {d : Rat} (h : 0 < d) : ∃ t : Rat, 0 ≤ t ∧ t ≤ 1 ∧ 0 < t * d ∧ t * d < 1 := by
  have hpos : 0 < 1 + d := add_pos one_pos h
  have ht : 0 < 1 / (1 + d) := one_div_pos.mpr hpos
  have hsum : 1 / (1 + d) + 1 / (1 + d) * d = 1 := by rw [← mul_one_add, one_div_mul_cancel hpos.ne']
  have hprod := mul_pos ht h
  exact ⟨_, ht.le, (le_add_of_nonneg_right hprod.le).trans_eq hsum, hprod, (lt_add_of_pos_left _ ht).trans_eq hsum⟩

/-- the `b+1` trick: if `xs` maximises `a` over `rs ∩ {a ≤ β+1}` and `a·xs ≤ β` then `a ≤ β` on all of `rs`. -/
theorem relax_by_one (rs : TL) (a : Lin) (β : Rat) (xs : Val)
    (hfeas : TL.holds rs xs)
    (hmax : ∀ z, TL.holds rs z → evalL a z ≤ β + 1 → evalL a z ≤ evalL a xs)
    (hm : evalL a xs ≤ β) : ∀ z, TL.holds rs z → evalL a z ≤ β := by
  intro z hz
  by_contra hcon
  -- a small step from `xs` towards a point `z` beyond `β` still meets the relaxed bound, yet beats the maximiser
  obtain ⟨t, h0, h1, hpos, hlt⟩ := exists_small_step (sub_pos.mpr (lt_of_le_of_lt hm (lt_of_not_ge hcon)))
  have e : evalL a (mix t z xs) = evalL a xs + t * (evalL a z - evalL a xs) := by rw [evalL_mix]; ring
  have hrel : evalL a (mix t z xs) ≤ β + 1 := by rw [e]; exact add_le_add hm hlt.le
  have := hmax _ (TL.holds_mix rs t h0 h1 z xs hz hfeas) hrel
  rw [e] at this
  exact absurd this (not_le.mpr (lt_add_of_pos_right _ hpos))

/-- some variable really occurs: tested on the total coefficient, not on `vars`, because an un-normalised coefficient list
    may list a variable with coefficient 0 -/
def PTerm.Proper (t : PTerm) : Prop := ∃ x, coeffOf x t.coeffs ≠ 0
def TL.Proper (l : TL) : Prop := ∀ t ∈ l, t.Proper

theorem TL.Proper.union {a b : TL} (ha : a.Proper) (hb : b.Proper) : TL.Proper (Gen.list_union a b) :=
  fun t ht => (Gen.mem_list_union.mp ht).elim (ha t) (hb t)

theorem TL.Proper.list_diff {l : TL} (hl : l.Proper) (g : TL) : TL.Proper (Gen.list_diff l g) :=
  fun t ht => hl t (Gen.mem_list_diff.mp ht).1

theorem exists_evalL_eq (l : Lin) (x : Var) (h : coeffOf x l ≠ 0) (k : Rat) : ∃ v, evalL l v = k :=
  ⟨Function.update (fun _ => 0) x (k / coeffOf x l), by
    rw [evalL_update, evalL_zero, zero_add, sub_zero, mul_div_cancel₀ _ h]⟩

theorem PTerm.Proper.exists_violation {t : PTerm} (h : t.Proper) : ∃ v, ¬ t.holds v := by
  obtain ⟨x, hx⟩ := h
  obtain ⟨v, hv⟩ := exists_evalL_eq t.coeffs x hx (t.const + 1)
  exact ⟨v, fun hh => absurd (hv ▸ hh : t.const + 1 ≤ t.const) (by simp)⟩

theorem TL.Proper.vars_ne_nil {l : TL} (h : l.Proper) (hl : l ≠ []) : l.vars ≠ [] := by
  cases l with
  | nil => exact absurd rfl hl
  | cons t l =>
    obtain ⟨x, hx⟩ := h t (by simp)
    intro e
    have : x ∈ TL.vars (t :: l) := TL.mem_vars.mpr ⟨t, by simp, coeffOf_ne_zero_mem x _ hx⟩
    rw [e] at this
    cases this

theorem TL.Proper.cols_ne_zero {l : TL} (hl : l.Proper) (hne : l ≠ []) (r : TL) :
    (Gen.list_union l.vars r.vars).length ≠ 0 :=
  fun e => hl.vars_ne_nil hne (Gen.list_union_length_eq_zero _ _ e).1

namespace Poly

theorem TL.varfree_of_vars_nil (l : TL) (h : l.vars = []) : ∀ t ∈ l, t.vars = [] := by
  intro t ht
  cases hv : t.vars with
  | nil => rfl
  | cons x xs =>
    have : x ∈ l.vars := TL.mem_vars.mpr ⟨t, ht, by simp [hv]⟩
    rw [h] at this
    cases this

theorem nocols (l r : TL) (h : (Gen.list_union l.vars r.vars).length = 0) :
    (∀ t ∈ l, t.vars = []) ∧ ∀ t ∈ r, t.vars = [] :=
  ⟨TL.varfree_of_vars_nil l (Gen.list_union_length_eq_zero _ _ h).1,
    TL.varfree_of_vars_nil r (Gen.list_union_length_eq_zero _ _ h).2⟩

theorem nocols_left (l r : TL) (h : (Gen.list_union l.vars r.vars).length = 0) : ∀ t ∈ l, t.vars = [] :=
  (nocols l r h).1

theorem holds_varfree (rows : TL) (hv : ∀ t ∈ rows, t.vars = []) (v : Val) :
    TL.holds rows v ↔ (rows.any fun t => decide (t.const < 0)) = false := by
  simp only [List.any_eq_false, decide_eq_true_eq, not_lt]
  exact forall₂_congr fun t ht => PTerm.holds_of_vars_nil t (hv t ht) v

/-- `hz`: when the matrix has no columns, the rows are variable-free (true at every call site: the column count is the
    number of variables of a list that contains the rows); there the answer `False` is right only for a source whose
    `is_polytope_empty` answers such a matrix by the signs of the constants (`Gen.emptyNoColsBySign`).  Only the zero
    objective is asked, so the weaker oracle class is enough. -/
theorem polyEmpty_ok (O : Oracle) (hO : O.PresolveAmbiguous) (rows : TL) (n : Nat)
    (hz : n = 0 → ∀ t ∈ rows, t.vars = []) (b : Bool) (h : polyEmpty O rows n = .ok b) :
    (b = true → ¬ ∃ v, TL.holds rows v) ∧
    (Gen.emptyNoColsBySign = true ∨ n ≠ 0 → b = false → ∃ v, TL.holds rows v) := by
  revert h
  fun_cases polyEmpty O rows n <;> rintro ⟨⟩
  case case1 h0 =>
    -- no rows: `False`
    rw [List.length_eq_zero_iff.mp h0]
    exact ⟨nofun, fun _ _ => ⟨fun _ => 0, TL.holds_nil _⟩⟩
  case case2 hr0 h0 =>
    -- no columns: `b` is `Gen.emptyNoColsBySign && rows.any (·.const < 0)`
    have hn : n = 0 := (Nat.mul_eq_zero.mp h0).resolve_left hr0
    have hsem := holds_varfree rows (hz hn)
    constructor
    · rintro hb ⟨v, hv⟩
      rw [(hsem v).mp hv, Bool.and_false] at hb
      cases hb
    · intro hg hb
      have hflag : Gen.emptyNoColsBySign = true := hg.resolve_right (not_not.mpr hn)
      rw [hflag, Bool.true_and] at hb
      exact ⟨fun _ => 0, (hsem _).mpr hb⟩
  -- the LP with the zero objective
  case case3 hlp => exact ⟨fun _ => hO.inf0 _ hlp, nofun⟩
  case case4 hlp => exact ⟨nofun, fun _ _ => ⟨_, (hO.opt _ _ _ _ hlp).1⟩⟩
  case case5 hlp => exact ⟨nofun, fun _ _ => (hO.unb _ _ hlp).1⟩

/-- the only error is the code's "Cannot decide emptiness" -/
theorem polyEmpty_error (O : Oracle) (rows : TL) (n : Nat) (e : Err) (h : polyEmpty O rows n = .error e) :
    e = .oracleStuck ∧ O.lp [] rows = .stuck := by
  revert h
  fun_cases polyEmpty O rows n <;> rintro ⟨⟩
  exact ⟨rfl, ‹_›⟩

theorem polyEmpty_true (O : Oracle) (hO : O.Certified) (rows : TL) (n : Nat)
    (hz : n = 0 → ∀ t ∈ rows, t.vars = [])
    (h : polyEmpty O rows n = .ok true) : ¬ ∃ v, TL.holds rows v :=
  (polyEmpty_ok O hO.toPresolveAmbiguous rows n hz true h).1 rfl

/-- a matrix without columns that is answered `False`: its variable-free rows hold everywhere -/
theorem polyEmpty_false_nocols (hg : Gen.emptyNoColsBySign = true) (O : Oracle) (rows : TL) (hr : rows ≠ []) (hv : ∀ t ∈ rows, t.vars = [])
    (h : polyEmpty O rows 0 = .ok false) : ∀ v, TL.holds rows v := by
  intro v
  rw [polyEmpty, if_neg (mt List.length_eq_zero_iff.mp hr), if_pos (Nat.mul_zero _), hg, Bool.true_and,
    Except.ok.injEq] at h
  exact (holds_varfree rows hv v).mpr h

theorem isEmpty_ok (O : Oracle) (hO : O.PresolveAmbiguous) (l : TL) (b : Bool) (h : isEmpty O l = .ok b) :
    (b = true → ¬ ∃ v, TL.holds l v) ∧ (Gen.emptyNoColsBySign = true → b = false → ∃ v, TL.holds l v) :=
  (polyEmpty_ok O hO l _ (fun hn => TL.varfree_of_vars_nil l (List.length_eq_zero_iff.mp hn)) b h).imp_right
    fun h2 hg => h2 (Or.inl hg)

theorem holds_bump (t : PTerm) (v : Val) : (bump t).holds v ↔ evalL t.coeffs v ≤ t.const + 1 := by
  simp [bump, PTerm.holds]

theorem cmpTol_eq_yes {tol m b : Rat} : cmpTol tol m b = .yes ↔ m ≤ b := by
  fun_cases cmpTol tol m b
  · exact iff_of_true rfl ‹_›
  · exact iff_of_false nofun ‹_›
  · exact iff_of_false nofun ‹_›

theorem grayify_ne_yes {r : Except Err Verdict} {w : Verdict} (h : grayify r = .ok w) : w ≠ .yes := by
  revert h
  fun_cases grayify r
  case case1 => rintro ⟨⟩ ⟨⟩
  case case2 hne => exact fun h e => hne (e ▸ h)

section
variable (O : Oracle) (hO : O.Certified)
include hO

/-- the LP that `verify_polytope_containment` and `reduce_polytope` solve for a row `t`: maximise `t` over rows `R`
    saying "`S`, and `t` relaxed by one".  What a certified answer tells about `t` on `S`: an optimum `m ≤ b` means `t`
    holds on all of `S` (the `b+1` trick), "infeasible" that no point of `S` satisfies `t`; "unbounded" cannot be
    answered, the objective being bounded by the relaxed row. -/
theorem lp_relaxed (t : PTerm) (S R : TL)
    (hR : ∀ v, TL.holds R v ↔ TL.holds S v ∧ evalL t.coeffs v ≤ t.const + 1) :
    (∀ m x, O.lp t.coeffs R = .optimal m x → TL.holds S (valOf x) ∧ evalL t.coeffs (valOf x) = m ∧
        (m ≤ t.const → ∀ z, TL.holds S z → t.holds z)) ∧
    (O.lp t.coeffs R = .infeasible → ¬ ∃ z, TL.holds S z ∧ t.holds z) ∧
    O.lp t.coeffs R ≠ .unbounded := by
  refine ⟨fun m x hlp => ?_, fun hlp ⟨z, hz, ht⟩ => ?_, fun hlp => ?_⟩
  · obtain ⟨hx, hxm, hmax⟩ := hO.opt _ _ _ _ hlp
    have hxS : TL.holds S (valOf x) := ((hR _).mp hx).1
    refine ⟨hxS, hxm, fun hm => ?_⟩
    have hmaxR : ∀ z, TL.holds S z → evalL t.coeffs z ≤ t.const + 1 → evalL t.coeffs z ≤ evalL t.coeffs (valOf x) :=
      fun z hz hz1 => hxm ▸ hmax z ((hR z).mpr ⟨hz, hz1⟩)
    exact relax_by_one S t.coeffs t.const (valOf x) hxS hmaxR (hxm ▸ hm)
  · exact hO.inf _ _ hlp ⟨z, (hR z).mpr ⟨hz, le_trans ht (le_add_of_nonneg_right zero_le_one)⟩⟩
  · obtain ⟨z, hz, hlt⟩ := (hO.unb _ _ hlp).2 (t.const + 1)
    exact absurd ((hR z).mp hz).2 (not_le.mpr hlt)

omit hO in
theorem containLoop_of_violation {l : TL} {t : PTerm} {rest : TL} {w : Verdict} (hw : w ≠ .yes)
    (hviol : (∃ v, TL.holds l v) → ∃ v, TL.holds l v ∧ ¬ t.holds v) :
    (w = .yes → ∀ v, TL.holds l v → TL.holds (t :: rest) v) ∧
    (w ≠ .yes → (∃ v, TL.holds l v) → ∃ v, TL.holds l v ∧ ¬ TL.holds (t :: rest) v) := by
  refine ⟨fun e => absurd e hw, fun _ hs => ?_⟩
  obtain ⟨v, hl, hnt⟩ := hviol hs
  exact ⟨v, hl, fun hh => hnt (TL.holds_cons.mp hh).1⟩

/-- `verify_polytope_containment`'s loop; `gray` too comes with a violating point.  A row is passed over silently only
    if it holds on all of `l`; otherwise no point of `l` satisfies it (LP infeasible) or one violates it (optimum above
    the bound).  The `TypeError` branch is dead. -/
theorem containLoop_ok (l r : TL) (w : Verdict) (h : containLoop O l r = .ok w) :
    (w = .yes → ∀ v, TL.holds l v → TL.holds r v) ∧
    (w ≠ .yes → (∃ v, TL.holds l v) → ∃ v, TL.holds l v ∧ ¬ TL.holds r v) := by
  have hlp (t : PTerm) := lp_relaxed O hO t l (l ++ [bump t]) fun v => by
    simp only [TL.holds_append, TL.holds_singleton, holds_bump]
  fun_induction containLoop O l r generalizing w
  case case1 =>
    cases h
    exact ⟨fun _ v _ => TL.holds_nil v, fun h => absurd rfl h⟩
  case case2 t _ hl =>
    cases h
    exact containLoop_of_violation nofun fun ⟨v, hv⟩ => ⟨v, hv, fun ht => (hlp t).2.1 hl ⟨v, hv, ht⟩⟩
  case case3 t _ m x hl hc ih =>
    obtain ⟨h1, h2⟩ := ih w h
    have ht := ((hlp t).1 m x hl).2.2 (cmpTol_eq_yes.mp hc)
    refine ⟨fun hw v hv => TL.holds_cons.mpr ⟨ht v hv, h1 hw v hv⟩, fun hw hs => ?_⟩
    obtain ⟨v, hv, hn⟩ := h2 hw hs
    exact ⟨v, hv, fun hh => hn (TL.holds_cons.mp hh).2⟩
  case case4 t _ m x hl hc _ =>
    obtain ⟨hx, rfl, -⟩ := (hlp t).1 m x hl
    exact containLoop_of_violation (grayify_ne_yes h) fun _ =>
      ⟨valOf x, hx, fun ht => nomatch hc.symm.trans (cmpTol_eq_yes.mpr ht)⟩
  case case5 t _ m x hl hc =>
    cases h
    obtain ⟨hx, rfl, -⟩ := (hlp t).1 m x hl
    exact containLoop_of_violation nofun fun _ =>
      ⟨valOf x, hx, fun ht => nomatch hc.symm.trans (cmpTol_eq_yes.mpr ht)⟩
  case case6 t _ hl => exact ((hlp t).2.2 hl).elim
  case case7 => cases h

/-- `refines`, every answer: `yes` only for containment; `no` and `gray` only if some point of the left side violates
    the right side, under two conditions.  The flag or `l.Proper`: a left side whose rows are all variable-free is
    decided by `is_polytope_empty` on a matrix without columns.  `l = [] → r.Proper`: on a left side without rows the
    code answers `no` without looking. -/
theorem refinesTL_ok (l r : TL) (w : Verdict) (h : refinesTL O l r = .ok w) :
    (w = .yes → ∀ v, TL.holds l v → TL.holds r v) ∧
    (w ≠ .yes → Gen.emptyNoColsBySign = true ∨ l.Proper → (l = [] → r.Proper) →
      ∃ v, TL.holds l v ∧ ¬ TL.holds r v) := by
  have hz := nocols l r
  -- a left side reported non-empty
  have hsat : l.length ≠ 0 → polyEmpty O l (Gen.list_union l.vars r.vars).length = .ok false →
      Gen.emptyNoColsBySign = true ∨ l.Proper → ∃ v, TL.holds l v := fun hl0 hlsat hg =>
    (polyEmpty_ok O hO.toPresolveAmbiguous l _ (fun e => (hz e).1) false hlsat).2
      (hg.imp_right fun hp => hp.cols_ne_zero (fun e => hl0 (by rw [e]; rfl)) r) rfl
  revert h
  fun_cases refinesTL O l r
  case case1 hr0 =>
    -- `r = []`: `yes`
    rintro ⟨⟩
    rw [List.length_eq_zero_iff.mp hr0]
    exact ⟨fun _ v _ => TL.holds_nil v, fun hw => absurd rfl hw⟩
  case case2 hr0 hl0 =>
    -- `l = []`, `r ≠ []`: `no`; a proper row of `r` is violated somewhere
    rintro ⟨⟩
    refine ⟨nofun, fun _ _ hr => ?_⟩
    obtain rfl := List.length_eq_zero_iff.mp hl0
    obtain ⟨t, rest, rfl⟩ := List.exists_cons_of_ne_nil (mt List.length_eq_zero_iff.mpr hr0)
    obtain ⟨v, hv⟩ := (hr rfl t List.mem_cons_self).exists_violation
    exact ⟨v, TL.holds_nil v, fun hh => hv (hh t List.mem_cons_self)⟩
  case case4 hlempty =>
    -- the left side is reported empty: `yes`
    rintro ⟨⟩
    exact ⟨fun _ v hv => absurd ⟨v, hv⟩ (polyEmpty_true O hO l _ (fun e => (hz e).1) hlempty), fun hw => absurd rfl hw⟩
  case case6 hl0 _ hlsat hrempty =>
    -- the right side is reported empty: `no`
    rintro ⟨⟩
    refine ⟨nofun, fun _ hg _ => ?_⟩
    obtain ⟨v, hv⟩ := hsat hl0 hlsat hg
    exact ⟨v, hv, fun hh => polyEmpty_true O hO r _ (fun e => (hz e).2) hrempty ⟨v, hh⟩⟩
  case case7 hl0 _ hlsat _ =>
    -- both non-empty: the loop over the rows of `r`
    intro h
    obtain ⟨h1, h2⟩ := containLoop_ok O hO l r w h
    exact ⟨h1, fun hw hg _ => h2 hw (hsat hl0 hlsat hg)⟩
  all_goals nofun

end

theorem refinesTL_yes (O : Oracle) (hO : O.Certified) (l r : TL) (h : refinesTL O l r = .ok .yes) :
    ∀ v, TL.holds l v → TL.holds r v :=
  (refinesTL_ok O hO l r .yes h).1 rfl

theorem refinesTL_no (O : Oracle) (hO : O.Certified) (l r : TL) (hl : l.Proper) (hr : r.Proper)
    (htol : 0 ≤ Gen.containTol) (h : refinesTL O l r = .ok .no) :
    ∃ v, TL.holds l v ∧ ¬ TL.holds r v :=
  (refinesTL_ok O hO l r .no h).2 nofun (Or.inr hl) fun _ => hr

end Poly
