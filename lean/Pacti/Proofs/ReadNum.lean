import Pacti.Proofs.Round4
import Mathlib.Data.List.TakeWhile
import Mathlib.Tactic.FieldSimp
import Mathlib.Tactic.Ring
/-! C10: the string that `%.4g` prints denotes the rounded value — `readNum (fmt4g q) = some (round4 q)`.
    `readNum` models reading a numeral of the printer's shape `[-]ddd[.ddd][e±dd]` back (`float(s)`, the grammar's
    `floating_point_number`); other shapes are not modelled (`none`). -/

namespace Serial
open Nat (ofDigitChars)

theorem digit_ne_e (c : Char) (h : c.isDigit = true) : c ≠ 'e' := by rintro rfl; simp [Char.isDigit] at h
theorem digit_ne_dot (c : Char) (h : c.isDigit = true) : c ≠ '.' := by rintro rfl; simp [Char.isDigit] at h
theorem digit_ne_minus (c : Char) (h : c.isDigit = true) : c ≠ '-' := by rintro rfl; simp [Char.isDigit] at h

theorem allDigits_iff (l : List Char) : allDigits l = true ↔ ∀ c ∈ l, c.isDigit = true := by
  simp [allDigits, List.all_eq_true]

theorem allDigits_append (a b : List Char) : allDigits (a ++ b) = (allDigits a && allDigits b) := by
  simp [allDigits]

theorem allDigits_replicate_zero (n : Nat) : allDigits (List.replicate n '0') = true := by
  rw [allDigits_iff]
  intro c hc
  rw [List.eq_of_mem_replicate hc]
  rfl

theorem allDigits_toDigits (n : Nat) : allDigits (Nat.toDigits 10 n) = true := by
  rw [allDigits_iff]
  intro c hc
  exact Nat.isDigit_of_mem_toDigits (by decide) (by decide) hc

theorem allDigits_of_subset {a b : List Char} (hs : a ⊆ b) (h : allDigits b = true) : allDigits a = true :=
  (allDigits_iff a).mpr fun c hc => (allDigits_iff b).mp h c (hs hc)

theorem allDigits_take {l : List Char} {k : ℕ} (h : allDigits l = true) : allDigits (l.take k) = true :=
  allDigits_of_subset (List.take_subset _ _) h

theorem allDigits_drop {l : List Char} {k : ℕ} (h : allDigits l = true) : allDigits (l.drop k) = true :=
  allDigits_of_subset (List.drop_subset _ _) h

theorem splitAt1_eq (c : Char) (l : List Char) :
    splitAt1 c l = (l.takeWhile (· != c), (l.dropWhile (· != c)).tail?) := by
  unfold splitAt1
  rw [List.span_eq_takeWhile_dropWhile]
  cases List.dropWhile (· != c) l <;> rfl

theorem bne_of_not_mem {c : Char} {l : List Char} (h : c ∉ l) : ∀ x ∈ l, (x != c) = true :=
  fun _ hx => bne_iff_ne.mpr fun e => h (e ▸ hx)

theorem splitAt1_none {c : Char} {l : List Char} (h : c ∉ l) : splitAt1 c l = (l, none) := by
  rw [splitAt1_eq, List.takeWhile_eq_self_iff.mpr (bne_of_not_mem h), List.dropWhile_eq_nil_iff.mpr (bne_of_not_mem h)]
  rfl

theorem splitAt1_some {c : Char} {a b : List Char} (h : c ∉ a) : splitAt1 c (a ++ c :: b) = (a, some b) := by
  rw [splitAt1_eq, List.takeWhile_append_of_pos (bne_of_not_mem h), List.dropWhile_append_of_pos (bne_of_not_mem h),
    List.takeWhile_cons_of_neg (by simp), List.dropWhile_cons_of_neg (by simp), List.append_nil]
  rfl

theorem stripZeros_spec (l : List Char) :
    ∃ z, l = stripZeros l ++ List.replicate z '0' ∧ l.length = (stripZeros l).length + z := by
  obtain ⟨z, hz⟩ : ∃ z, l.reverse.takeWhile (· == '0') = List.replicate z '0' :=
    ⟨_, List.eq_replicate_iff.mpr ⟨rfl, fun _ hb => eq_of_beq (List.mem_takeWhile_imp (p := (· == '0')) hb)⟩⟩
  have h := congrArg List.reverse (List.takeWhile_append_dropWhile (p := (· == '0')) (l := l.reverse))
  rw [List.reverse_append, List.reverse_reverse, hz, List.reverse_replicate] at h
  -- `stripZeros l` is by definition the reversed `dropWhile` in `h`
  have hl : l = stripZeros l ++ List.replicate z '0' := h.symm
  exact ⟨z, hl, (congrArg List.length hl).trans (by rw [List.length_append, List.length_replicate])⟩

theorem allDigits_stripZeros {l : List Char} (h : allDigits l = true) : allDigits (stripZeros l) = true := by
  obtain ⟨z, hz, -⟩ := stripZeros_spec l
  rw [hz, allDigits_append] at h
  simp only [Bool.and_eq_true] at h
  exact h.1

theorem stripZeros_ne_nil {l : List Char} (h : ofDigitChars 10 l 0 ≠ 0) : stripZeros l ≠ [] := by
  intro e
  obtain ⟨z, hz, -⟩ := stripZeros_spec l
  rw [e, List.nil_append] at hz
  exact h (by rw [hz, Nat.ofDigitChars_replicate_zero, Nat.mul_zero])

theorem digits4_spec {m : Nat} (h1 : 1000 ≤ m) (h2 : m ≤ 9999) :
    (digits4 m).length = 4 ∧ allDigits (digits4 m) = true ∧ ofDigitChars 10 (digits4 m) 0 = m := by
  have hle : (Nat.toDigits 10 m).length ≤ 4 := (Nat.length_toDigits_le_iff (by decide) (by decide)).mpr (by omega)
  have hgt : ¬ (Nat.toDigits 10 m).length ≤ 3 := fun h => by
    have := (Nat.length_toDigits_le_iff (b := 10) (by decide) (by decide)).mp h
    omega
  have hlen : (Nat.toDigits 10 m).length = 4 := by omega
  have e : digits4 m = Nat.toDigits 10 m := by
    unfold digits4
    simp [hlen]
  rw [e]
  exact ⟨hlen, allDigits_toDigits m, Nat.ofDigitChars_ten_toDigits⟩

theorem not_mem_of_allDigits {c : Char} {l : List Char} (h : allDigits l = true) (hc : c.isDigit = false) : c ∉ l := by
  intro hm
  have := (allDigits_iff l).mp h c hm
  rw [hc] at this
  cases this

theorem e_not_mem_withPointL {ip fp : List Char} (hip : allDigits ip = true) (hfp : allDigits fp = true) :
    'e' ∉ withPointL ip fp := by
  fun_cases withPointL ip fp
  · exact not_mem_of_allDigits hip (by decide)
  · rw [List.mem_append, List.mem_cons, not_or, not_or]
    exact ⟨not_mem_of_allDigits hip (by decide), by decide, not_mem_of_allDigits hfp (by decide)⟩

theorem splitAt1_dot_withPointL {ip : List Char} (fp : List Char) (hip : allDigits ip = true) :
    splitAt1 '.' (withPointL ip fp) = (ip, if fp.isEmpty then none else some fp) := by
  unfold withPointL
  split
  · exact splitAt1_none (not_mem_of_allDigits hip (by decide))
  · exact splitAt1_some (not_mem_of_allDigits hip (by decide))

/-- the mantissa part, common to both shapes -/
theorem readPos_mant {ip fp l : List Char} {ex : Option (List Char)} (hne : ip ≠ []) (hip : allDigits ip = true)
    (hfp : allDigits fp = true) (hsplit : splitAt1 'e' l = (withPointL ip fp, ex)) :
    readPos l = applyExp (decVal ip fp) ex := by
  unfold readPos
  rw [hsplit]
  simp only [splitAt1_dot_withPointL fp hip]
  have hipe : ip.isEmpty = false := List.isEmpty_eq_false_iff.mpr hne
  -- `readPos`'s guard is false: `ip` is a non-empty digit string, `fp` a digit string, and there is a point only if
  -- `fp ≠ []`
  cases fp <;> simp [hipe, hip, hfp]

theorem readPos_plain {ip fp : List Char} (hne : ip ≠ []) (hip : allDigits ip = true) (hfp : allDigits fp = true) :
    readPos (withPointL ip fp) = some (decVal ip fp) :=
  readPos_mant hne hip hfp (splitAt1_none (e_not_mem_withPointL hip hfp))

/-- the numeral `ip.fp` whose digits, padded with `z` zeros, are those of `ds` behind `j` zeros -/
theorem decVal_of_pad {ip fp ds : List Char} {j z : ℕ} (h : ip ++ fp ++ List.replicate z '0' = List.replicate j '0' ++ ds)
    {e' : ℤ} (he : e' + (fp.length + z : ℕ) = 0) : decVal ip fp = (ofDigitChars 10 ds 0 : ℚ) * pow10 e' := by
  have hv : ofDigitChars 10 (ip ++ fp ++ List.replicate z '0') 0 = ofDigitChars 10 (List.replicate j '0' ++ ds) 0 := by
    rw [h]
  rw [Nat.ofDigitChars_append, Nat.ofDigitChars_append, Nat.ofDigitChars_append, Nat.ofDigitChars_replicate_zero,
    Nat.ofDigitChars_replicate_zero, mul_zero, Nat.ofDigitChars_eq_ofDigitChars_zero (l := fp)] at hv
  rw [decVal, ← hv, eq_neg_of_add_eq_zero_left he, pow10_eq, zpow_neg, zpow_natCast]
  push_cast
  field_simp
  ring

theorem ofDigitChars_zeros_append (j : Nat) (l : List Char) : ofDigitChars 10 (List.replicate j '0' ++ l) 0 = ofDigitChars 10 l 0 := by
  rw [Nat.ofDigitChars_append, Nat.ofDigitChars_replicate_zero]
  simp

theorem expDigits_spec (ea : Nat) :
    (if ea < 10 then ['0'] else []) ++ Nat.toDigits 10 ea ≠ [] ∧
    allDigits ((if ea < 10 then ['0'] else []) ++ Nat.toDigits 10 ea) = true ∧
    ofDigitChars 10 ((if ea < 10 then ['0'] else []) ++ Nat.toDigits 10 ea) 0 = ea := by
  obtain ⟨j, hj⟩ : ∃ j, (if ea < 10 then ['0'] else []) = List.replicate j '0' := by
    split
    · exact ⟨1, rfl⟩
    · exact ⟨0, rfl⟩
  rw [hj, allDigits_append, allDigits_replicate_zero, allDigits_toDigits, ofDigitChars_zeros_append]
  exact ⟨List.append_ne_nil_of_right_ne_nil _ Nat.toDigits_ne_nil, rfl, Nat.ofDigitChars_ten_toDigits⟩

/-- a numeral in scientific notation with the exponent `e` printed the way `%g` prints it -/
theorem readPos_sci {ip fp : List Char} (e : ℤ) (hne : ip ≠ []) (hip : allDigits ip = true) (hfp : allDigits fp = true) :
    readPos (withPointL ip fp ++ 'e' :: (if e < 0 then '-' else '+') ::
      ((if e.natAbs < 10 then ['0'] else []) ++ Nat.toDigits 10 e.natAbs)) = some (decVal ip fp * pow10 e) := by
  obtain ⟨hds, hdd, hv⟩ := expDigits_spec e.natAbs
  generalize ((if e.natAbs < 10 then ['0'] else []) ++ Nat.toDigits 10 e.natAbs) = ds at hds hdd hv ⊢
  have hdse : ds.isEmpty = false := List.isEmpty_eq_false_iff.mpr hds
  rw [readPos_mant hne hip hfp (splitAt1_some (e_not_mem_withPointL hip hfp))]
  split
  · rename_i h
    rw [applyExp, hdse, hdd, hv, Int.ofNat_natAbs_of_nonpos h.le, neg_neg]
    rfl
  · rename_i h
    rw [applyExp, hdse, hdd, hv, Int.natAbs_of_nonneg (not_lt.mp h)]
    rfl

/-! The three shapes of a rendering, for any digit string `ds`; `e'` is the exponent of its last digit. -/

/-- `ddd.ddd`: the point after the first `k` digits, trailing zeros stripped -/
theorem readPos_fixed {ds : List Char} {k : ℕ} (e' : ℤ) (hd : allDigits ds = true) (hk0 : 0 < k) (hk : k ≤ ds.length)
    (he : e' + ds.length = k) :
    readPos (withPointL (ds.take k) (stripZeros (ds.drop k))) = some ((ofDigitChars 10 ds 0 : ℚ) * pow10 e') := by
  have hne : ds.take k ≠ [] := List.ne_nil_of_length_pos (by rw [List.length_take]; omega)
  obtain ⟨z, hz, hl⟩ := stripZeros_spec (ds.drop k)
  rw [List.length_drop] at hl
  rw [readPos_plain hne (allDigits_take hd)
    (allDigits_stripZeros (allDigits_drop hd))]
  exact congrArg some (decVal_of_pad (j := 0) (z := z) (by rw [List.append_assoc, ← hz, List.take_append_drop]; rfl)
    (by omega))

/-- `0.0…0ddd` -/
theorem readPos_small {ds : List Char} {j : ℕ} (e' : ℤ) (hd : allDigits ds = true) (hne : stripZeros ds ≠ [])
    (he : e' + (ds.length + j : ℕ) = 0) :
    readPos ('0' :: '.' :: (List.replicate j '0' ++ stripZeros ds)) = some ((ofDigitChars 10 ds 0 : ℚ) * pow10 e') := by
  have hform : ('0' :: '.' :: (List.replicate j '0' ++ stripZeros ds)) =
      withPointL ['0'] (List.replicate j '0' ++ stripZeros ds) := by
    unfold withPointL
    rw [if_neg]
    · rfl
    · simp [hne]
  have hfpd : allDigits (List.replicate j '0' ++ stripZeros ds) = true := by
    rw [allDigits_append, allDigits_replicate_zero, allDigits_stripZeros hd]
    rfl
  obtain ⟨z, hz, hl⟩ := stripZeros_spec ds
  rw [hform, readPos_plain (ip := ['0']) (List.cons_ne_nil _ _) rfl hfpd]
  exact congrArg some (decVal_of_pad (j := j + 1) (z := z)
    (by rw [List.append_assoc, List.append_assoc, ← hz]; rfl)
    (by rw [List.length_append, List.length_replicate]; omega))

/-- `d.ddde±XX` -/
theorem readPos_exp {ds : List Char} {e : ℤ} (e' : ℤ) (hd : allDigits ds = true) (hne : stripZeros ds ≠ [])
    (he : e' + ds.length = e + 1) :
    readPos (withPointL ((stripZeros ds).take 1) ((stripZeros ds).drop 1) ++ 'e' :: (if e < 0 then '-' else '+') ::
      ((if e.natAbs < 10 then ['0'] else []) ++ Nat.toDigits 10 e.natAbs)) =
      some ((ofDigitChars 10 ds 0 : ℚ) * pow10 e') := by
  have hsd := allDigits_stripZeros hd
  have hlen : 1 ≤ (stripZeros ds).length := List.length_pos_iff.mpr hne
  have htk : (stripZeros ds).take 1 ≠ [] := List.ne_nil_of_length_pos (by rw [List.length_take]; omega)
  obtain ⟨z, hz, hl⟩ := stripZeros_spec ds
  rw [readPos_sci e htk (allDigits_take hsd)
    (allDigits_drop hsd),
    decVal_of_pad (j := 0) (z := z) (e' := e' - e) (by rw [List.take_append_drop, ← hz]; rfl)
      (by rw [List.length_drop]; omega), mul_assoc, pow10_add, sub_add_cancel]

theorem readPos_renderL (d : Dec) (h1 : 1000 ≤ d.m) (h2 : d.m ≤ 9999) : readPos d.renderL = some d.value := by
  obtain ⟨hlen, hdig, hval⟩ := digits4_spec h1 h2
  have hsne : stripZeros (digits4 d.m) ≠ [] := stripZeros_ne_nil (by omega)
  unfold Dec.value
  fun_cases Dec.renderL d
  · rw [readPos_fixed (d.e - 3) hdig (Nat.succ_pos _) (by omega) (by omega), hval]
  · rw [readPos_small (d.e - 3) hdig hsne (by omega), hval]
  · rw [readPos_exp (d.e - 3) hdig hsne (by omega), hval]

/-- the `'-'` ends up at the head of the integer part, which then fails `allDigits` -/
theorem readPos_minus (r : List Char) : readPos ('-' :: r) = none := by
  have h : (splitAt1 '.' (splitAt1 'e' ('-' :: r)).1).1 = '-' :: (splitAt1 '.' (splitAt1 'e' r).1).1 := by
    simp only [splitAt1_eq, List.takeWhile_cons]
    rfl
  unfold readPos
  simp only [h]
  rfl

/-- what `readPos` accepts carries no sign, so `readNumL` reads it the same way -/
theorem readNumL_of_readPos {l : List Char} {x : ℚ} (h : readPos l = some x) : readNumL l = some x := by
  unfold readNumL
  split
  · rw [readPos_minus] at h
    cases h
  · exact h

theorem readNumL_minus (r : List Char) : readNumL ('-' :: r) = (readPos r).map (fun q => -q) := rfl

theorem readNumL_fmt4gL (q : ℚ) : readNumL (fmt4gL q) = some (round4 q) := by
  by_cases h0 : q = 0
  · subst h0
    have h := readPos_plain (ip := ['0']) (fp := []) (List.cons_ne_nil _ _) rfl rfl
    rw [show decVal ['0'] [] = 0 by simp [decVal, Nat.ofDigitChars]] at h
    exact readNumL_of_readPos h
  obtain ⟨h1, h2, -⟩ := decOf_spec h0
  have hr := readPos_renderL (decOf q) h1 h2
  rw [fmt4gL_bySign, round4_bySign, bySign_of_ne h0, bySign_of_ne h0]
  by_cases hneg : q < 0
  · rw [if_pos hneg, if_pos hneg, readNumL_minus, hr]
    rfl
  · rw [if_neg hneg, if_neg hneg]
    exact readNumL_of_readPos hr

/-- **the printed numeral denotes the rounded value**: reading back what `%.4g` prints gives exactly `round4 q` -/
theorem readNum_fmt4g (q : ℚ) : readNum (fmt4g q) = some (round4 q) := by
  unfold readNum fmt4g
  rw [String.toList_ofList]
  exact readNumL_fmt4gL q

end Serial
