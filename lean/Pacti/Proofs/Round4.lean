import Pacti.Model.Serial
import Mathlib.Tactic.NormNum
import Mathlib.Algebra.Order.Field.Basic
/-! The `%.4g` rounding of `Model/Serial.lean`: decimal exponent, round to nearest, the decomposition `dec4pos`, and the sign
    wrapper that `round4` and `fmt4gL` share. -/

namespace Serial

theorem pow10_eq (e : Int) : pow10 e = (10 : ℚ) ^ e := by
  fun_cases pow10 e
  · obtain ⟨k, rfl⟩ := Int.eq_ofNat_of_zero_le ‹_›
    simp
  · obtain ⟨k, hk⟩ : ∃ k : ℕ, e = -(k : ℤ) := ⟨(-e).toNat, by omega⟩
    subst hk
    simp

theorem pow10_add (a b : ℤ) : pow10 a * pow10 b = pow10 (a + b) := by
  rw [pow10_eq, pow10_eq, pow10_eq, zpow_add₀ (by norm_num)]

theorem Dec.value_eq (d : Dec) : d.value = (d.m : ℚ) * 10 ^ (d.e - 3) := by rw [Dec.value, pow10_eq]

theorem expUp_spec (n d fuel k : ℕ) : d * 10 ^ k ≤ n → n < d * 10 ^ (k + fuel + 1) →
    n < d * 10 ^ (expUp n d fuel k + 1) ∧ d * 10 ^ (expUp n d fuel k) ≤ n := by
  fun_induction expUp n d fuel k
  case case1 => exact fun lo up => ⟨up, lo⟩
  case case2 fuel k lo ih => exact fun _ up => ih lo (by rwa [Nat.add_right_comm k 1 fuel])
  case case3 up => exact fun lo _ => ⟨not_le.mp up, lo⟩

theorem expDown_spec (n d fuel k : ℕ) : 1 ≤ k ∧ n * 10 ^ (k - 1) < d → d ≤ n * 10 ^ (k + fuel) →
    d ≤ n * 10 ^ (expDown n d fuel k) ∧ 1 ≤ expDown n d fuel k ∧ n * 10 ^ (expDown n d fuel k - 1) < d := by
  fun_induction expDown n d fuel k
  case case1 => exact fun inv hit => ⟨hit, inv⟩
  case case2 hit => exact fun inv _ => ⟨hit, inv⟩
  case case3 fuel k miss ih => exact fun _ h => ih ⟨Nat.succ_pos k, not_le.mp miss⟩ (by rwa [Nat.add_right_comm k 1 fuel])

/-- `he` is an equation argument so that the caller chooses the cast form of the exponent -/
theorem pow_le_div_iff {a b k : ℕ} {e : ℤ} (he : e = k) (hb : 0 < b) : (10 : ℚ) ^ e ≤ (a : ℚ) / b ↔ b * 10 ^ k ≤ a := by
  have hb' : (0 : ℚ) < b := Nat.cast_pos.mpr hb
  rw [he, zpow_natCast, le_div_iff₀ hb', mul_comm]
  exact_mod_cast Iff.rfl

theorem neg_pow_le_div_iff {a b k : ℕ} {e : ℤ} (he : e = -(k : ℤ)) (hb : 0 < b) :
    (10 : ℚ) ^ e ≤ (a : ℚ) / b ↔ b ≤ a * 10 ^ k := by
  have hb' : (0 : ℚ) < b := Nat.cast_pos.mpr hb
  have hk : (0 : ℚ) < 10 ^ k := pow_pos (by norm_num) k
  rw [he, zpow_neg, zpow_natCast, le_div_iff₀ hb', inv_mul_le_iff₀ hk, mul_comm]
  exact_mod_cast Iff.rfl

/-- the fuel `exp10` hands to its searches suffices -/
theorem lt_mul_ten_pow (n d k : ℕ) (hd : 0 < d) (h : n ≤ k) : n < d * 10 ^ k :=
  (Nat.lt_pow_self (by norm_num)).trans_le
    ((Nat.pow_le_pow_right (by norm_num) h).trans (Nat.le_mul_of_pos_left _ hd))

/-- `e` is the decimal exponent of `x` -/
def DecExp (x : ℚ) (e : ℤ) : Prop := (10 : ℚ) ^ e ≤ x ∧ x < (10 : ℚ) ^ (e + 1)

theorem ten_zpow_pos (e : ℤ) : (0 : ℚ) < 10 ^ e := zpow_pos (by norm_num) e

theorem exp10_spec (n d : Nat) (hn : 0 < n) (hd : 0 < d) : DecExp ((n : ℚ) / d) (exp10 n d) := by
  fun_cases exp10 n d
  · obtain ⟨up, lo⟩ := expUp_spec n d n 0 (by rwa [pow_zero, mul_one]) (lt_mul_ten_pow n d _ hd (by omega))
    generalize expUp n d n 0 = k at up lo
    have hup := (pow_le_div_iff (Nat.cast_succ k).symm hd).not.mpr (not_le.mpr up)
    exact ⟨(pow_le_div_iff rfl hd).mpr lo, lt_of_not_ge hup⟩
  · obtain ⟨dn, k1, lo⟩ := expDown_spec n d d 1 ⟨le_rfl, by rwa [pow_zero, mul_one, ← not_le]⟩
      (lt_mul_ten_pow d n _ hn (by omega)).le
    generalize expDown n d d 1 = k at dn k1 lo
    have he : -(k : ℤ) + 1 = -((k - 1 : ℕ) : ℤ) := by omega
    have hup := (neg_pow_le_div_iff he hd).not.mpr (not_le.mpr lo)
    exact ⟨(neg_pow_le_div_iff rfl hd).mpr dn, lt_of_not_ge hup⟩

theorem DecExp.unique {x : ℚ} {a b : ℤ} (ha : DecExp x a) (hb : DecExp x b) : a = b := by
  have h10 : (1 : ℚ) < 10 := by norm_num
  have h1 : a < b + 1 := (zpow_lt_zpow_iff_right₀ h10).mp (lt_of_le_of_lt ha.1 hb.2)
  have h2 : b < a + 1 := (zpow_lt_zpow_iff_right₀ h10).mp (lt_of_le_of_lt hb.1 ha.2)
  omega

theorem scaledN_eq (n : ℕ) (e : ℤ) : scaledN n e = n * 10 ^ (3 - e).toNat := by
  fun_cases scaledN n e
  · rfl
  · rw [Int.toNat_of_nonpos (by omega), pow_zero, mul_one]

theorem scaledD_eq (d : ℕ) (e : ℤ) : scaledD d e = d * 10 ^ (e - 3).toNat := by
  fun_cases scaledD d e
  · rw [Int.toNat_of_nonpos (by omega), pow_zero, mul_one]
  · rfl

theorem zpow_toNat (e : ℤ) : (10 : ℚ) ^ e = 10 ^ e.toNat / 10 ^ (-e).toNat := by
  rcases le_total 0 e with h | h
  · rw [Int.toNat_of_nonpos (neg_nonpos.mpr h), pow_zero, div_one, ← zpow_natCast, Int.toNat_of_nonneg h]
  · rw [Int.toNat_of_nonpos h, pow_zero, one_div, ← zpow_natCast, Int.toNat_of_nonneg (neg_nonneg.mpr h), ← zpow_neg,
      neg_neg]

theorem scaled_eq (n d : Nat) (hd : 0 < d) (e : ℤ) :
    0 < scaledD d e ∧ ((scaledN n e : ℕ) : ℚ) / ((scaledD d e : ℕ) : ℚ) = ((n : ℚ) / d) / (10 : ℚ) ^ (e - 3) := by
  rw [scaledN_eq, scaledD_eq, zpow_toNat (e - 3), neg_sub]
  refine ⟨Nat.mul_pos hd (Nat.pow_pos (by norm_num)), ?_⟩
  push_cast
  rw [mul_div_mul_comm, div_div_eq_mul_div, mul_div_assoc]

theorem rne_cases (N D : ℕ) :
    (rne N D = N / D ∧ 2 * (N % D) ≤ D) ∨ (rne N D = N / D + 1 ∧ D ≤ 2 * (N % D)) := by
  fun_cases rne N D
  case case1 hlt => exact .inl ⟨rfl, hlt.le⟩
  case case2 hgt => exact .inr ⟨rfl, hgt.le⟩
  case case3 hle _ => exact .inl ⟨rfl, Nat.le_of_not_lt hle⟩
  case case4 hge _ _ => exact .inr ⟨rfl, Nat.le_of_not_lt hge⟩

theorem abs_round_le_half {m f ρ : ℚ} (h0 : 0 ≤ ρ) (h1 : ρ ≤ 1) (h : m = f ∧ ρ ≤ 1 / 2 ∨ m = f + 1 ∧ 1 / 2 ≤ ρ) :
    |m - (f + ρ)| ≤ 1 / 2 := by
  rcases h with ⟨rfl, h⟩ | ⟨rfl, h⟩
  · rw [sub_add_cancel_left, abs_neg, abs_of_nonneg h0]
    exact h
  · rw [add_sub_add_left_eq_sub, abs_of_nonneg (sub_nonneg.mpr h1), sub_le_comm]
    exact le_trans (by norm_num) h

theorem rne_spec (N D : Nat) (hD : 0 < D) : |((rne N D : ℕ) : ℚ) - (N : ℚ) / D| ≤ 1 / 2 := by
  have hD' : (0 : ℚ) < D := Nat.cast_pos.mpr hD
  have hN : (D : ℚ) * ((N / D : ℕ) : ℚ) + ((N % D : ℕ) : ℚ) = N := by exact_mod_cast Nat.div_add_mod N D
  rw [← hN, add_div, mul_div_cancel_left₀ _ hD'.ne']
  refine abs_round_le_half (div_nonneg (Nat.cast_nonneg _) hD'.le)
    ((div_le_one hD').mpr (Nat.cast_le.mpr (Nat.mod_lt N hD).le)) ?_
  rw [div_le_div_iff₀ hD' two_pos, div_le_div_iff₀ two_pos hD', one_mul, mul_comm _ (2 : ℚ)]
  exact_mod_cast rne_cases N D

theorem rne_exact (m : Nat) {D : Nat} (hD : 0 < D) : rne (m * D) D = m := by
  unfold rne
  simp [Nat.mul_div_cancel _ hD, hD]

theorem zpow_split {a b : ℤ} (k : ℕ) (h : a = b + k) : (10 : ℚ) ^ a = 10 ^ k * 10 ^ b := by
  rw [h, zpow_add₀ (by norm_num), zpow_natCast, mul_comm]

theorem DecExp.iff_mantissa {x : ℚ} {e : ℤ} : DecExp x e ↔ (1000 ≤ x / 10 ^ (e - 3) ∧ x / 10 ^ (e - 3) < 10000) := by
  have hs := ten_zpow_pos (e - 3)
  rw [DecExp, le_div_iff₀ hs, div_lt_iff₀ hs, zpow_split 3 (by omega : e = e - 3 + (3 : ℕ)),
    zpow_split 4 (by omega : e + 1 = e - 3 + (4 : ℕ))]
  norm_num

/-- `a ≤ y ≤ m + 1/2 < m + 1`, and likewise above -/
theorem nat_round_range {m : ℕ} (a b : ℕ) {y : ℚ} (h : |(m : ℚ) - y| ≤ 1 / 2) (ha : (a : ℚ) ≤ y) (hb : y ≤ b) :
    a ≤ m ∧ m ≤ b := by
  obtain ⟨r1, r2⟩ := abs_le.mp h
  have half : ∀ x : ℚ, x + 1 / 2 < x + 1 := fun x => by norm_num
  constructor
  · refine Nat.lt_succ_iff.mp ((Nat.cast_lt (α := ℚ)).mp ?_)
    rw [Nat.cast_succ]
    exact (ha.trans (neg_le_sub_iff_le_add.mp r1)).trans_lt (half _)
  · refine Nat.lt_succ_iff.mp ((Nat.cast_lt (α := ℚ)).mp ?_)
    rw [Nat.cast_succ]
    exact ((sub_le_iff_le_add'.mp r2).trans (add_le_add_left hb _)).trans_lt (half _)

/-- the last step of `dec4pos`: a mantissa rounded up to `10000` is renormalised; stated for an `X` equal to the `if` so
    that it applies to `dec4pos n d` by `rfl` -/
theorem renorm_spec {m : ℕ} {e : ℤ} (h1 : 1000 ≤ m) (h2 : m ≤ 10000) {X : Dec}
    (hX : X = if 10000 ≤ m then ⟨1000, e + 1⟩ else ⟨m, e⟩) :
    1000 ≤ X.m ∧ X.m ≤ 9999 ∧ X.value = (m : ℚ) * 10 ^ (e - 3) := by
  subst hX
  split
  · rw [Nat.le_antisymm h2 ‹_›, Dec.value_eq, zpow_split 1 (by omega : e + 1 - 3 = e - 3 + (1 : ℕ)), ← mul_assoc]
    norm_num
  · exact ⟨h1, Nat.le_of_lt_succ (Nat.lt_of_not_le ‹_›), Dec.value_eq _⟩

theorem abs_sub_le_of_mantissa {m x : ℚ} {e : ℤ} (h : |m - x / 10 ^ (e - 3)| ≤ 1 / 2) :
    |m * 10 ^ (e - 3) - x| ≤ 5 * 10 ^ (e - 4) := by
  have hs := ten_zpow_pos (e - 3)
  have : m * 10 ^ (e - 3) - x = (m - x / 10 ^ (e - 3)) * 10 ^ (e - 3) := by
    rw [sub_mul, div_mul_cancel₀ _ hs.ne']
  rw [this, abs_mul, abs_of_pos hs]
  refine (mul_le_mul_of_nonneg_right h hs.le).trans_eq ?_
  rw [zpow_split 1 (by omega : e - 3 = e - 4 + (1 : ℕ)), ← mul_assoc]
  norm_num

/-- what `dec4pos` computes, in one statement: with `e` the decimal exponent of `x = n/d` and `s = 10^(e-3)` the unit of
    the fourth significant digit, the value `v` has `|v - x| ≤ s/2`, and the stored mantissa has four digits. -/
theorem dec4pos_spec (n d : Nat) (hn : 0 < n) (hd : 0 < d) :
    1000 ≤ (dec4pos n d).m ∧ (dec4pos n d).m ≤ 9999 ∧
    |(dec4pos n d).value - (n : ℚ) / d| ≤ 5 * (10 : ℚ) ^ (exp10 n d - 4) := by
  obtain ⟨ylo, yhi⟩ := DecExp.iff_mantissa.mp (exp10_spec n d hn hd)
  obtain ⟨hDpos, hsc⟩ := scaled_eq n d hd (exp10 n d)
  have hr := rne_spec (scaledN n (exp10 n d)) _ hDpos
  rw [hsc] at hr
  obtain ⟨m1, m2⟩ := nat_round_range 1000 10000 hr (by exact_mod_cast ylo) (by exact_mod_cast yhi.le)
  obtain ⟨a, b, c⟩ := renorm_spec m1 m2 (X := dec4pos n d) rfl
  exact ⟨a, b, c ▸ abs_sub_le_of_mantissa hr⟩

/-- what idempotence (`decOf_value`, `bySign_round4`) rests on -/
theorem dec4pos_of_value {n d : Nat} {x : Dec} (hn : 0 < n) (hd : 0 < d) (hm1 : 1000 ≤ x.m) (hm2 : x.m ≤ 9999)
    (hv : (n : ℚ) / d = x.value) : dec4pos n d = x := by
  have hy : (n : ℚ) / d / 10 ^ (x.e - 3) = x.m :=
    (div_eq_iff (zpow_ne_zero _ (by norm_num))).mpr (hv.trans x.value_eq)
  have he : exp10 n d = x.e := (exp10_spec n d hn hd).unique (DecExp.iff_mantissa.mpr (by
    rw [hy]
    exact ⟨by exact_mod_cast hm1, by exact_mod_cast Nat.lt_succ_of_le hm2⟩))
  obtain ⟨hDpos, hsc⟩ := scaled_eq n d hd x.e
  have hN : scaledN n x.e = x.m * scaledD d x.e := by
    rw [hy, div_eq_iff (Nat.cast_ne_zero.mpr hDpos.ne')] at hsc
    exact_mod_cast hsc
  rw [dec4pos, he, hN, rne_exact _ hDpos, if_neg (by omega)]

theorem natAbs_div_den (q : ℚ) : ((q.num.natAbs : ℕ) : ℚ) / (q.den : ℚ) = |q| := by
  conv_rhs => rw [← Rat.num_div_den q]
  rw [abs_div, Nat.cast_natAbs, Int.cast_abs]
  simp

theorem num_natAbs_pos {q : ℚ} (h : q ≠ 0) : 0 < q.num.natAbs := by
  have : q.num ≠ 0 := Rat.num_ne_zero.mpr h
  omega

/-- the positive part of `round4`: the decomposition of `|q|` -/
def decOf (q : ℚ) : Dec := dec4pos q.num.natAbs q.den

theorem decOf_neg (q : ℚ) : decOf (-q) = decOf q := by
  unfold decOf
  rw [Rat.neg_num, Int.natAbs_neg, Rat.neg_den]

theorem decOf_spec {q : ℚ} (hq : q ≠ 0) : 1000 ≤ (decOf q).m ∧ (decOf q).m ≤ 9999 ∧
    ∀ e, DecExp |q| e → |(decOf q).value - (|q|)| ≤ 5 * (10 : ℚ) ^ (e - 4) := by
  have hn := num_natAbs_pos hq
  obtain ⟨h1, h2, h3⟩ := dec4pos_spec _ _ hn q.den_pos
  have hx := exp10_spec _ _ hn q.den_pos
  rw [natAbs_div_den] at h3 hx
  exact ⟨h1, h2, fun e he => hx.unique he ▸ h3⟩

theorem decOf_value_pos {q : ℚ} (hq : q ≠ 0) : 0 < (decOf q).value := by
  have h := (decOf_spec hq).1
  rw [Dec.value_eq]
  exact mul_pos (Nat.cast_pos.mpr (by omega)) (ten_zpow_pos _)

theorem decOf_value {q : ℚ} (hq : q ≠ 0) : decOf (decOf q).value = decOf q := by
  have hp := decOf_value_pos hq
  exact dec4pos_of_value (num_natAbs_pos hp.ne') (Rat.den_pos _) (decOf_spec hq).1 (decOf_spec hq).2.1
    (by rw [natAbs_div_den, abs_of_pos hp])

/-- the shape shared by `round4` and `fmt4gL`: a value for zero, and for the two signs a function of the decomposition
    of `|q|` -/
def bySign {α : Type} (z : α) (n p : Dec → α) (q : ℚ) : α :=
  if q = 0 then z else if q < 0 then n (decOf q) else p (decOf q)

theorem round4_bySign (q : ℚ) : round4 q = bySign 0 (fun d => -d.value) Dec.value q := rfl

theorem fmt4gL_bySign (q : ℚ) : fmt4gL q = bySign ['0'] (fun d => '-' :: d.renderL) Dec.renderL q := rfl

theorem bySign_of_ne {α : Type} {z : α} {n p : Dec → α} {q : ℚ} (hq : q ≠ 0) :
    bySign z n p q = if q < 0 then n (decOf q) else p (decOf q) := if_neg hq

theorem round4_of_neg {q : ℚ} (h : q < 0) : round4 q = -(decOf q).value := by
  rw [round4_bySign, bySign_of_ne h.ne, if_pos h]

theorem round4_of_pos {q : ℚ} (h : 0 < q) : round4 q = (decOf q).value := by
  rw [round4_bySign, bySign_of_ne h.ne', if_neg (not_lt.mpr h.le)]

/-- anything computed from the sign and the decomposition is the same at `q` and at `round4 q` -/
theorem bySign_round4 {α : Type} (z : α) (n p : Dec → α) (q : ℚ) : bySign z n p (round4 q) = bySign z n p q := by
  rcases lt_trichotomy q 0 with h | rfl | h
  · have hp := decOf_value_pos h.ne
    rw [round4_of_neg h, bySign_of_ne (neg_ne_zero.mpr hp.ne'), if_pos (neg_neg_of_pos hp), decOf_neg,
      decOf_value h.ne, bySign_of_ne h.ne, if_pos h]
  · rfl
  · have hp := decOf_value_pos h.ne'
    rw [round4_of_pos h, bySign_of_ne hp.ne', if_neg (not_lt.mpr hp.le), decOf_value h.ne',
      bySign_of_ne h.ne', if_neg (not_lt.mpr h.le)]

end Serial
