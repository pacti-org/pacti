import Pacti.Model.Poly
import Pacti.Proofs.Refine
/-! `optimize` / `get_variable_bounds` (C12), for the oracle class that is faithful to HiGHS' presolve. -/

namespace Poly

/-- the test `optimize` makes on an objective without constraints -/
theorem any_coeffOf_ne_zero (obj : Lin) :
    (obj.any fun p => coeffOf p.1 obj != 0) = true ↔ ∃ x, coeffOf x obj ≠ 0 := by
  simp only [List.any_eq_true, bne_iff_ne, ne_eq]
  constructor
  · rintro ⟨p, _, hp⟩
    exact ⟨p.1, hp⟩
  · rintro ⟨x, hx⟩
    obtain ⟨p, hp, rfl⟩ := List.mem_map.mp (coeffOf_ne_zero_mem x obj hx)
    exact ⟨p, hp, hx⟩

/-- the objective `optimize` hands to the (maximising) LP -/
def dirObj (mx : Bool) (obj : Lin) : Lin := if mx then obj else scaleL (-1) obj

theorem evalL_dirObj (mx : Bool) (obj : Lin) (v : Val) :
    evalL (dirObj mx obj) v = if mx then evalL obj v else - evalL obj v := by
  cases mx
  · simp [dirObj, evalL_scaleL]
  · rfl

/-- `optimize`, every outcome, in terms of the objective `dirObj mx obj` actually maximised and the value the LP
    reports for it (the code returns that value, or its negative).  `None` after the answer "infeasible" is right
    because `is_empty` (zero objective) then tells "infeasible" from "unbounded"; for variable-free rows that needs
    `is_polytope_empty`'s answer on a matrix without columns to go by the signs of the constants. -/
theorem optimize_spec (O : Oracle) (hO : O.PresolveAmbiguous) (l : TL) (obj : Lin) (mx : Bool) :
    match optimize O l obj mx with
    | .ok (some m) => (∃ z, TL.holds l z ∧ evalL (dirObj mx obj) z = if mx then m else -m) ∧
        ∀ z, TL.holds l z → evalL (dirObj mx obj) z ≤ if mx then m else -m
    | .ok none => Gen.emptyNoColsBySign = true →
        (∃ z, TL.holds l z) ∧ ∀ M, ∃ z, TL.holds l z ∧ M < evalL (dirObj mx obj) z
    | .error .valueError => ¬ ∃ z, TL.holds l z
    | .error _ => True := by
  fun_cases optimize O l obj mx
  case case1 hl hz =>
    -- no constraint: the LP is not called; the form takes every value
    rw [List.length_eq_zero_iff.mp hl]
    obtain ⟨x, hx⟩ := (any_coeffOf_ne_zero obj).mp hz
    refine fun _ => ⟨⟨fun _ => 0, TL.holds_nil _⟩, fun M => ?_⟩
    obtain ⟨z, hz⟩ := exists_evalL_eq obj x hx (if mx then M + 1 else -(M + 1))
    refine ⟨z, TL.holds_nil _, ?_⟩
    rw [evalL_dirObj, hz]
    cases mx <;> simp
  case case2 hl hz =>
    -- no constraint and the form is zero
    rw [List.length_eq_zero_iff.mp hl]
    have hall : ∀ x, coeffOf x obj = 0 := fun x =>
      not_not.mp fun hx => hz ((any_coeffOf_ne_zero obj).mpr ⟨x, hx⟩)
    -- `if mx then 0 else -0`: the shape the `match` of the statement produces for the returned `some 0`
    have hzero : ∀ z, evalL (dirObj mx obj) z = if mx then 0 else -0 := fun z => by
      rw [evalL_dirObj, evalL_zero_of_coeffs obj z hall]
    exact ⟨⟨fun _ => 0, TL.holds_nil _, hzero _⟩, fun z _ => (hzero z).le⟩
  case case3 hlp => exact fun _ => hO.unb _ _ hlp
  case case4 m x hlp =>
    obtain ⟨hx, hxm, hmax⟩ := hO.opt _ _ _ _ hlp
    -- the code returns `m` or `-m`; the statement turns it back
    have hret : (if mx then (if mx then m else -m) else -(if mx then m else -m)) = m := by
      cases mx <;> simp
    dsimp only
    rw [hret]
    exact ⟨⟨_, hx, hxm⟩, hmax⟩
  case case5 hlp he =>
    exact fun hg => (hO.inf _ _ hlp).resolve_left fun hinf => hinf ((isEmpty_ok O hO l false he).2 hg rfl)
  case case6 he => exact (isEmpty_ok O hO l true he).1 rfl
  case case7 e he =>
    obtain ⟨rfl, _⟩ := polyEmpty_error O l _ e he
    trivial
  case case8 => trivial

theorem optimize_some (O : Oracle) (hO : O.PresolveAmbiguous) (l : TL) (obj : Lin) (mx : Bool) (m : Rat)
    (h : optimize O l obj mx = .ok (some m)) :
    (∃ z, TL.holds l z ∧ evalL obj z = m) ∧
    ∀ z, TL.holds l z → (if mx then evalL obj z ≤ m else m ≤ evalL obj z) := by
  have := optimize_spec O hO l obj mx
  rw [h] at this
  obtain ⟨⟨z, hz, hm⟩, hmax⟩ := this
  simp only [evalL_dirObj] at hm hmax
  cases mx
  · exact ⟨⟨z, hz, neg_inj.mp hm⟩, fun w hw => neg_le_neg_iff.mp (hmax w hw)⟩
  · exact ⟨⟨z, hz, hm⟩, hmax⟩

theorem optimize_none (hg : Gen.emptyNoColsBySign = true) (O : Oracle) (hO : O.PresolveAmbiguous) (l : TL) (obj : Lin) (mx : Bool)
    (h : optimize O l obj mx = .ok none) :
    (∃ z, TL.holds l z) ∧ ∀ M, ∃ z, TL.holds l z ∧ (if mx then M < evalL obj z else evalL obj z < -M) := by
  have := optimize_spec O hO l obj mx
  rw [h] at this
  refine ⟨(this hg).1, fun M => ?_⟩
  obtain ⟨z, hz, hM⟩ := (this hg).2 M
  rw [evalL_dirObj] at hM
  cases mx
  · exact ⟨z, hz, lt_neg.mp hM⟩
  · exact ⟨z, hz, hM⟩

theorem optimize_err (O : Oracle) (hO : O.PresolveAmbiguous) (l : TL) (obj : Lin) (mx : Bool)
    (h : optimize O l obj mx = .error .valueError) : ¬ ∃ z, TL.holds l z := by
  have := optimize_spec O hO l obj mx
  rw [h] at this
  exact this

theorem bounds_enclose (O : Oracle) (hO : O.PresolveAmbiguous) (l : TL) (x : Var) (lo hi : Option Rat)
    (h : variableBounds O l x = .ok (lo, hi)) :
    ∀ v, TL.holds l v → (∀ a, lo = some a → a ≤ v x) ∧ (∀ b, hi = some b → v x ≤ b) := by
  intro v hv
  have hx : evalL [(x, (1 : Rat))] v = v x := by simp [evalL]
  revert h
  fun_cases variableBounds O l x
  case case3 hi' hhi lo' hlo =>
    rintro ⟨⟩
    constructor
    · rintro a rfl
      exact hx ▸ (optimize_some O hO l _ false a hlo).2 v hv
    · rintro b rfl
      exact hx ▸ (optimize_some O hO l _ true b hhi).2 v hv
  all_goals nofun

end Poly
