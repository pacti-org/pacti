import Pacti.Proofs.Elim
/-! Tactic 4 (one-variable substitution chains): every result dominates the term as an expression in the context
    (`Gains true`), hence refines it.  It needs `isolate_variable` to give the constant the sign −1 (`Gen.isolateSign = -1`),
    and rests on lower bounds being negated before the recursive call and back after it (`tryUseful`). -/

namespace Elim

/-- the isolated expression of `x` in `g` (constant sign −1): `x − expr g / a` -/
theorem expr_isolate (hs : Gen.isolateSign = -1) {g e : PTerm} {x : Var} (ha : g.coeff x ≠ 0) (h : isolate g x = some e) (v : Val) :
    expr e v = v x - expr g v / g.coeff x := by
  unfold isolate PTerm.isolateWith at h
  split at h
  · cases h
    rw [expr_mk', evalL_map_snd _ (-· / g.coeff x) (-1 / g.coeff x) (fun c => by ring), evalL_filter_ne, hs]
    unfold expr PTerm.coeff
    have ha' : coeffOf x g.coeffs ≠ 0 := ha
    field_simp
    ring
  · cases h

theorem div_pos_of_mul_pos {a b : ℚ} (h : 0 < a * b) : 0 < b / a := by
  rcases mul_pos_iff.mp h with ⟨ha, hb⟩ | ⟨ha, hb⟩
  · exact div_pos hb ha
  · rw [← neg_div_neg_eq]
    exact div_pos (neg_pos.mpr hb) (neg_pos.mpr ha)

/-- The step of tactic 4.  The context row `u` bounds `x` by `e` on the side on which `x` occurs in `t`
    (`u.coeff x * t.coeff x > 0`); substituting for `x` any `r` on the far side of `e` can only raise `t`. -/
theorem subst_isolate_le (hs : Gen.isolateSign = -1) {t u e r : PTerm} {x : Var} {v : Val}
    (hiso : isolate u x = some e) (hux : 0 < u.coeff x * t.coeff x) (huv : u.holds v)
    (hr : 0 ≤ t.coeff x * (expr r v - expr e v)) : expr t v ≤ expr (t.subst x r) v := by
  have hu0 : u.coeff x ≠ 0 := left_ne_zero_of_mul hux.ne'
  have hq := mul_nonneg (div_pos_of_mul_pos hux).le (neg_nonneg.mpr ((holds_iff_expr u v).mp huv))
  have : t.coeff x * (expr r v - v x)
      = t.coeff x * (expr r v - expr e v) + t.coeff x / u.coeff x * -(expr u v) := by
    rw [expr_isolate hs hu0 hiso v]
    ring
  rw [expr_subst, this]
  linarith

theorem tryUseful_gains (hs : Gen.isolateSign = -1) {recCall : PTerm → PTerm → TacticRes} {H : TL} {t r : PTerm} {x : Var}
    {us : List PTerm} (hus : ∀ u ∈ us, u ∈ H ∧ 0 < u.coeff x * t.coeff x)
    (hrec : ∀ u ∈ us, ∀ nt r0, recCall nt u = .ok (some r0) → Gains true H nt r0)
    (h : tryUseful recCall t x us = .ok (some r)) : Gains true H t r := by
  revert h
  fun_induction tryUseful recCall t x us
  case case1 => nofun
  case case6 => nofun
  case case3 u _ nt0 hiso lower nt r0 hr0 res =>
    -- the recursive call on the isolated expression returned `r0`
    rintro ⟨⟩
    have hu := hus u List.mem_cons_self
    rw [gains_true_iff]
    intro v hv
    have hd := gains_true_iff.mp (hrec u List.mem_cons_self _ r0 hr0) v hv
    refine subst_isolate_le hs hiso hu.2 (hv u hu.1) ?_
    by_cases hneg : u.coeff x < 0
    · -- a lower bound: negated before and after the recursion
      simp only [res, nt, lower, hneg, decide_true, ↓reduceIte, expr_scale] at hd ⊢
      exact mul_nonneg_of_nonpos_of_nonpos ((neg_iff_neg_of_mul_pos hu.2).mp hneg).le (by linarith [hd])
    · simp only [res, nt, lower, hneg, decide_false, Bool.false_eq_true, ↓reduceIte] at hd ⊢
      have hp : 0 < u.coeff x := lt_of_le_of_ne (not_lt.mp hneg) (left_ne_zero_of_mul hu.2.ne').symm
      exact mul_nonneg ((pos_iff_pos_of_mul_pos hu.2).mp hp).le (by linarith [hd])
  -- `isolate_variable` raised, or the recursive call returned `None` or declined (ValueError): on to the next row
  all_goals
    rename_i ih
    exact ih (fun w hw => hus w (List.mem_cons_of_mem _ hw)) fun w hw => hrec w (List.mem_cons_of_mem _ hw)

theorem tactic4_gains (hs : Gen.isolateSign = -1) {fuel : Nat} {t r : PTerm} {H : TL} {xs noVars : List Var} {refine : Bool}
    (h : tactic4 fuel t H xs refine noVars = .ok (some r)) : Gains refine H t r := by
  have hcand {t : PTerm} {H : TL} {noVars : List Var} {x : Var} {u : PTerm}
      (hu : u ∈ H.filter fun ct => (Gen.list_intersection ct.vars noVars).isEmpty && decide (ct.coeff x ≠ 0) && decide (ct.coeff x * t.coeff x > 0)) :
      u ∈ H ∧ 0 < u.coeff x * t.coeff x := by
    obtain ⟨h1, h2⟩ := List.mem_filter.mp hu
    simp only [Bool.and_eq_true, decide_eq_true_eq] at h2
    exact ⟨h1, h2.2⟩
  revert h
  fun_induction tactic4 fuel t H xs refine noVars generalizing r
  -- `hr`: the tactic is past its first test, which raises ValueError when relaxing
  case case6 _ t H _ refine _ hr x _ _ goal _ _ g _ hgoal e he =>
    rintro ⟨⟩
    obtain rfl : refine = true := by simpa using hr
    have hgc := hcand (List.mem_filter.mp (hgoal ▸ List.mem_cons_self : g ∈ goal)).1
    exact gains_true_iff.mpr fun v hv => subst_isolate_le hs he hgc.2 (hv g hgc.1) (by simp)
  case case8 _ t H _ refine _ hr x _ _ _ _ _ _ ih =>
    obtain rfl : refine = true := by simpa using hr
    refine tryUseful_gains hs (fun u hu => hcand (List.mem_filter.mp hu).1) fun u _ nt r0 hr0 v hv => ?_
    exact ih nt u hr0 v (hv.erase u)
  all_goals nofun

theorem tactic4_sound (hs : Gen.isolateSign = -1) (t : PTerm) (H : TL) (xs : List Var) (refine : Bool) (r : PTerm)
    (h : tactic4 (H.length + 1) t H xs refine [] = .ok (some r)) :
    ∀ v, TL.holds H v → (if refine then (r.holds v → t.holds v) else (t.holds v → r.holds v)) :=
  (tactic4_gains hs h).sound

end Elim
