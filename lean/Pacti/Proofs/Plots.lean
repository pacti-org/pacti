import Pacti.Model.Plots
import Pacti.Proofs.Eval
import Pacti.Proofs.Except
import Mathlib.Tactic.Linarith
import Mathlib.Tactic.Ring
import Mathlib.Tactic.LinearCombination
/-! Half-planes (Cramer's rule, faces), `plotSystem'` evaluated case by case (`PlotRun`), sliding a feasible point to
    a corner, and the cocycle identity behind the angular order. -/

open Plots

theorem Plots.eq_of_mix_eq {a b c t : Rat} (ha : a ≤ c) (hb : b ≤ c) (ht0 : 0 < t) (ht1 : t < 1)
    (e : t * a + (1 - t) * b = c) : a = c ∧ b = c := by
  have h1 : 0 < 1 - t := sub_pos.mpr ht1
  have hsum : t * (c - a) + (1 - t) * (c - b) = 0 := by linear_combination -e
  have hz := (add_eq_zero_iff_of_nonneg (mul_nonneg ht0.le (sub_nonneg.mpr ha))
    (mul_nonneg h1.le (sub_nonneg.mpr hb))).mp hsum
  exact ⟨(sub_eq_zero.mp ((mul_eq_zero.mp hz.1).resolve_left ht0.ne')).symm,
    (sub_eq_zero.mp ((mul_eq_zero.mp hz.2).resolve_left h1.ne')).symm⟩

namespace HalfPlane

theorem cramer {a b c a' b' c' x y : Rat} (hd : a * b' - a' * b ≠ 0) :
    a * x + b * y = c ∧ a' * x + b' * y = c' ↔
      x = (c * b' - c' * b) / (a * b' - a' * b) ∧ y = (a * c' - a' * c) / (a * b' - a' * b) := by
  rw [eq_div_iff hd, eq_div_iff hd]
  constructor
  · rintro ⟨h1, h2⟩
    exact ⟨by linear_combination b' * h1 - b * h2, by linear_combination a * h2 - a' * h1⟩
  · rintro ⟨h1, h2⟩
    constructor
    · apply mul_right_cancel₀ hd
      linear_combination a * h1 + b * h2
    · apply mul_right_cancel₀ hd
      linear_combination a' * h1 + b' * h2

theorem tight_iff_eq_inter {h k : HalfPlane} (hd : det h k ≠ 0) {p : Rat × Rat} :
    h.tight p ∧ k.tight p ↔ p = inter h k :=
  (cramer hd).trans (Prod.ext_iff (x := p) (y := inter h k)).symm

theorem eq_of_tight {h k : HalfPlane} (hd : det h k ≠ 0) {p q : Rat × Rat} (hp : h.tight p ∧ k.tight p)
    (hq : h.tight q ∧ k.tight q) : p = q :=
  ((tight_iff_eq_inter hd).mp hp).trans ((tight_iff_eq_inter hd).mp hq).symm

theorem det_swap (h k : HalfPlane) : det k h = - det h k := by unfold det; ring

theorem det_self (h : HalfPlane) : det h h = 0 := sub_self _

/-- the tight set of a row is a face -/
theorem tight_of_tight_mix {h : HalfPlane} {u w : Rat × Rat} (hu : h.holds u) (hw : h.holds w)
    {t : Rat} (ht0 : 0 < t) (ht1 : t < 1)
    (ht : h.tight (t * u.1 + (1 - t) * w.1, t * u.2 + (1 - t) * w.2)) : h.tight u ∧ h.tight w := by
  unfold tight lhs at ht ⊢
  have e : t * (h.a * u.1 + h.b * u.2) + (1 - t) * (h.a * w.1 + h.b * w.2) = h.c := by linear_combination ht
  exact eq_of_mix_eq hu hw ht0 ht1 e

end HalfPlane

namespace Plots

theorem mem_of_mem_pairs {α : Type} {l : List α} {a b : α} (h : (a, b) ∈ pairs l) : a ∈ l ∧ b ∈ l := by
  induction l with
  | nil => simp [pairs] at h
  | cons c r ih =>
    simp only [pairs, List.mem_append, List.mem_map, Prod.mk.injEq] at h
    rcases h with ⟨b', hb', rfl, rfl⟩ | h
    · exact ⟨by simp, List.mem_cons_of_mem _ hb'⟩
    · exact ⟨List.mem_cons_of_mem _ (ih h).1, List.mem_cons_of_mem _ (ih h).2⟩

theorem mem_pairs_of_ne {α : Type} {l : List α} {a b : α} (ha : a ∈ l) (hb : b ∈ l) (hne : a ≠ b) :
    (a, b) ∈ pairs l ∨ (b, a) ∈ pairs l := by
  induction l with
  | nil => cases ha
  | cons c r ih =>
    simp only [pairs, List.mem_append, List.mem_map, Prod.mk.injEq]
    rcases List.mem_cons.mp ha with rfl | ha'
    · rcases List.mem_cons.mp hb with rfl | hb'
      · exact absurd rfl hne
      · exact Or.inl (Or.inl ⟨b, hb', rfl, rfl⟩)
    · rcases List.mem_cons.mp hb with rfl | hb'
      · exact Or.inr (Or.inl ⟨a, ha', rfl, rfl⟩)
      · rcases ih ha' hb' with h | h
        · exact Or.inl (Or.inr h)
        · exact Or.inr (Or.inr h)

theorem mem_dedupP (l : List (Rat × Rat)) (p : Rat × Rat) : p ∈ dedupP l ↔ p ∈ l := by
  induction l with
  | nil => simp [dedupP]
  | cons a r ih =>
    simp only [dedupP, List.mem_cons, List.mem_filter, bne_iff_ne, ne_eq, ih]
    by_cases e : p = a <;> simp [e]

theorem dedupP_nodup {l : List (Rat × Rat)} : (dedupP l).Nodup := by
  induction l with
  | nil => simp [dedupP]
  | cons a r ih =>
    rw [dedupP, List.nodup_cons]
    exact ⟨fun h => by simpa using (List.mem_filter.mp h).2, ih.filter _⟩

theorem feasible_iff (H : List HalfPlane) (p : Rat × Rat) : feasible H p = true ↔ ∀ h ∈ H, h.holds p := by
  simp [feasible]

/-- `substVal`, `substAll` are the dict-order-keeping counterparts of `PTerm.subst x ⟨[], -a⟩`, `Poly.evalTerm`, and the
    lemmas below those of `subst_const_*`, `evalTerm_*` in Proofs/Eval -/
theorem substVal_holds (t : PTerm) (x : Var) (a : Rat) (v : Val) :
    (substVal t x a).holds v ↔ t.holds (Function.update v x a) := by
  unfold substVal
  split
  · unfold PTerm.holds PTerm.coeff
    -- `E ≤ c + k * -a ↔ E + k * a ≤ c`, and `E + k * a` is the value at the updated point
    rw [← evalL_filter_ne_add, mul_neg, ← sub_eq_add_neg, le_sub_iff_add_le]
  · rename_i h
    exact (PTerm.holds_update_of_not_mem (mt (t.containsVar_iff x).mpr h) v a).symm

theorem substAll_cons (t : PTerm) (p : Var × Rat) (b : List (Var × Rat)) :
    substAll t (p :: b) = substAll (substVal t p.1 p.2) b := by simp [substAll]

theorem substAll_holds (t : PTerm) (b : List (Var × Rat)) (v : Val) :
    (substAll t b).holds v ↔ t.holds (override v b) := by
  induction b generalizing t with
  | nil => simp [substAll, override]
  | cons p b ih => rw [substAll_cons, ih, substVal_holds]; rfl

theorem substVal_vars {t : PTerm} {x y : Var} {a : Rat} : y ∈ (substVal t x a).vars ↔ y ∈ t.vars ∧ y ≠ x := by
  unfold substVal
  split
  · simp only [PTerm.vars, varsL, List.mem_map, List.mem_filter, bne_iff_ne, ne_eq]
    exact ⟨fun ⟨p, ⟨hp, hne⟩, e⟩ => ⟨⟨p, hp, e⟩, e ▸ hne⟩, fun ⟨⟨p, hp, e⟩, hne⟩ => ⟨p, ⟨hp, e ▸ hne⟩, e⟩⟩
  · rename_i hc
    exact ⟨fun h => ⟨h, fun e => hc ((t.containsVar_iff x).mpr (e ▸ h))⟩, And.left⟩

theorem substAll_vars {t : PTerm} {b : List (Var × Rat)} {y : Var} :
    y ∈ (substAll t b).vars ↔ y ∈ t.vars ∧ y ∉ b.map (·.1) := by
  induction b generalizing t with
  | nil => exact ⟨fun h => ⟨h, List.not_mem_nil⟩, And.left⟩
  | cons p b ih => rw [substAll_cons, ih, substVal_vars, List.map_cons, List.mem_cons, not_or, and_assoc]

theorem substVal_nodup {t : PTerm} {x : Var} {a : Rat} (h : t.vars.Nodup) : (substVal t x a).vars.Nodup := by
  unfold substVal
  split
  · simp only [PTerm.vars, varsL] at h ⊢
    exact h.sublist ((List.filter_sublist).map _)
  · exact h

theorem substAll_nodup {t : PTerm} (b : List (Var × Rat)) (h : t.vars.Nodup) : (substAll t b).vars.Nodup := by
  induction b generalizing t with
  | nil => exact h
  | cons p b ih => rw [substAll_cons]; exact ih (substVal_nodup h)

theorem substVal_of_not_mem {t : PTerm} {x : Var} (a : Rat) (h : x ∉ t.vars) : substVal t x a = t :=
  if_neg (mt (t.containsVar_iff x).mp h)

theorem substAll_of_disjoint {t : PTerm} {vals : List (Var × Rat)} (h : ∀ z ∈ t.vars, z ∉ vals.map (·.1)) :
    substAll t vals = t := by
  induction vals with
  | nil => rfl
  | cons p b ih =>
    rw [substAll_cons, substVal_of_not_mem]
    · exact ih fun z hz hm => h z hz (List.mem_cons_of_mem _ hm)
    · exact fun hm => h p.1 hm List.mem_cons_self

/-- `_substitute_in_termlist` in closed form -/
theorem substituteIn_cases (l : TL) (vals : List (Var × Rat)) :
    (∃ t ∈ l, (substAll t vals).vars = [] ∧ (substAll t vals).const < 0) ∧
      substituteIn l vals = .error .valueError ∨
    (¬ ∃ t ∈ l, (substAll t vals).vars = [] ∧ (substAll t vals).const < 0) ∧
      substituteIn l vals = .ok ((l.map (substAll · vals)).filter fun nt => !nt.vars.isEmpty) := by
  induction l with
  | nil => exact Or.inr ⟨nofun, rfl⟩
  | cons t l ih =>
    simp only [substituteIn, List.mem_cons, exists_eq_or_imp, List.map_cons, List.filter_cons]
    by_cases hv : (substAll t vals).vars.isEmpty = true
    · have hv' := List.isEmpty_iff.mp hv
      by_cases hc : (substAll t vals).const < 0
      · -- the row became a violated constant
        exact Or.inl ⟨Or.inl ⟨hv', hc⟩, by rw [if_pos hv, if_pos hc]⟩
      · -- the row became a satisfied constant and is dropped
        rw [if_pos hv, if_neg hc]
        simp only [hv, hc, and_false, false_or, Bool.not_true, Bool.false_eq_true, ↓reduceIte]
        exact ih
    · -- the row keeps a variable and stays
      have hv' : ¬ (substAll t vals).vars = [] := fun e => hv (List.isEmpty_iff.mpr e)
      rw [if_neg hv]
      simp only [hv', false_and, false_or, hv, Bool.not_false, ↓reduceIte]
      rcases ih with ⟨a, b⟩ | ⟨a, b⟩
      · exact Or.inl ⟨a, by rw [b]⟩
      · exact Or.inr ⟨a, by rw [b]⟩

theorem substituteIn_err {l : TL} {vals : List (Var × Rat)} {e : Err} :
    substituteIn l vals = .error e ↔
      e = .valueError ∧ ∃ t ∈ l, (substAll t vals).vars = [] ∧ (substAll t vals).const < 0 := by
  rcases substituteIn_cases l vals with ⟨a, b⟩ | ⟨a, b⟩
  · rw [b]
    exact ⟨fun h => ⟨(Except.error.inj h).symm, a⟩, fun h => by rw [h.1]⟩
  · rw [b]
    exact ⟨fun h => (nomatch h), fun h => absurd h.2 a⟩

theorem substituteIn_mem {l r : TL} {vals : List (Var × Rat)} (h : substituteIn l vals = .ok r) {t' : PTerm} :
    t' ∈ r ↔ (∃ t ∈ l, substAll t vals = t') ∧ t'.vars ≠ [] := by
  rcases substituteIn_cases l vals with ⟨-, b⟩ | ⟨-, b⟩
  · rw [b] at h
    cases h
  · rw [b] at h
    cases h
    simp only [List.mem_filter, List.mem_map, Bool.not_eq_true', List.isEmpty_eq_false_iff]

theorem substituteIn_holds {l r : TL} {vals : List (Var × Rat)} (h : substituteIn l vals = .ok r) (v : Val) :
    TL.holds r v ↔ TL.holds l (override v vals) := by
  have hno : ¬ ∃ t ∈ l, (substAll t vals).vars = [] ∧ (substAll t vals).const < 0 := fun hv => by
    have := substituteIn_err.mpr ⟨rfl, hv⟩
    rw [h] at this
    cases this
  unfold TL.holds
  constructor
  · intro hr t ht
    rw [← substAll_holds]
    -- a row that became constant was dropped because it holds
    by_cases hv : (substAll t vals).vars = []
    · exact (PTerm.holds_of_vars_nil _ hv v).mpr (not_lt.mp fun hc => hno ⟨t, ht, hv, hc⟩)
    · exact hr _ ((substituteIn_mem h).mpr ⟨⟨t, ht, rfl⟩, hv⟩)
  · intro hl t' ht'
    obtain ⟨⟨t, ht, rfl⟩, -⟩ := (substituteIn_mem h).mp ht'
    exact (substAll_holds t vals v).mpr (hl t ht)

theorem two_vars_shape {x y v0 v1 : Var} {r : List Var} (hn : (v0 :: v1 :: r).Nodup)
    (hsub : ∀ z ∈ v0 :: v1 :: r, z = x ∨ z = y) :
    r = [] ∧ x ≠ y ∧ ((v0 = x ∧ v1 = y) ∨ (v0 = y ∧ v1 = x)) := by
  simp only [List.nodup_cons, List.mem_cons, not_or] at hn
  obtain ⟨⟨h01, h0r⟩, h1r, -⟩ := hn
  have hsh : (v0 = x ∧ v1 = y) ∨ (v0 = y ∧ v1 = x) := by
    rcases hsub v0 (by simp) with rfl | rfl <;> rcases hsub v1 (by simp) with rfl | rfl
    exacts [absurd rfl h01, Or.inl ⟨rfl, rfl⟩, Or.inr ⟨rfl, rfl⟩, absurd rfl h01]
  refine ⟨List.eq_nil_iff_forall_not_mem.mpr fun v2 h2 => ?_, ?_, hsh⟩
  · -- a third variable would be `x` or `y`, that is, `v0` or `v1`
    rcases hsh with ⟨rfl, rfl⟩ | ⟨rfl, rfl⟩ <;> rcases hsub v2 (by simp [h2]) with rfl | rfl
    exacts [h0r h2, h1r h2, h1r h2, h0r h2]
  · rintro rfl
    rcases hsh with ⟨a, b⟩ | ⟨a, b⟩ <;> exact h01 (a.trans b.symm)

theorem evalL_two {l : Lin} {x y : Var} (hxy : x ≠ y) (h : ∀ z ∈ varsL l, z = x ∨ z = y) (v : Val) :
    evalL l v = coeffOf x l * v x + coeffOf y l * v y := by
  induction l with
  | nil => simp [evalL, coeffOf]
  | cons p l ih =>
    have ih' := ih (fun z hz => h z (by simp only [varsL, List.map_cons, List.mem_cons] at hz ⊢; exact Or.inr hz))
    simp only [evalL, coeffOf, ih']
    rcases h p.1 (by simp [varsL]) with e | e
    · simp only [e, ↓reduceIte, hxy]
      ring
    · simp only [e, ↓reduceIte, hxy.symm]
      ring

def hpOf (x y : Var) (t : PTerm) : HalfPlane := ⟨t.coeff x, t.coeff y, t.const⟩

theorem hpOf_holds {x y : Var} (hxy : x ≠ y) {t : PTerm} (h : ∀ z ∈ t.vars, z = x ∨ z = y) (v : Val) :
    (hpOf x y t).holds (v x, v y) ↔ t.holds v := by
  unfold HalfPlane.holds HalfPlane.lhs hpOf PTerm.holds PTerm.coeff
  rw [evalL_two hxy h v]

theorem toHalfPlane_xy (t : PTerm) (x y : Var) : toHalfPlane ([x, y].map t.coeff, t.const) = hpOf x y t := rfl

theorem toHalfPlane_yx (t : PTerm) (x y : Var) :
    toHalfPlane (swap01 ([y, x].map t.coeff), t.const) = hpOf x y t := rfl

section
variable {l : TL} {x y : Var} {vals : List (Var × Rat)} {xl yl : Rat × Rat}

theorem any_key_iff : (vals.any (fun p => p.1 == x)) = true ↔ x ∈ vals.map (·.1) := by
  simp only [List.any_eq_true, beq_iff_eq, List.mem_map]

theorem boundary_vars {t : PTerm} (ht : t ∈ boundary x y xl yl) : t.vars = [x] ∨ t.vars = [y] := by
  simp only [boundary, List.mem_cons, List.not_mem_nil, or_false] at ht
  rcases ht with rfl | rfl | rfl | rfl <;> simp [PTerm.vars, varsL]

theorem boundary_holds (w : Val) :
    TL.holds (boundary x y xl yl) w ↔ xl.1 ≤ w x ∧ w x ≤ xl.2 ∧ yl.1 ≤ w y ∧ w y ≤ yl.2 := by
  simp only [boundary, TL.holds_cons, TL.holds_nil, PTerm.holds, evalL, one_mul, neg_one_mul, add_zero,
    neg_le_neg_iff, and_true]
  exact ⟨fun ⟨a, b, c, d⟩ => ⟨b, a, d, c⟩, fun ⟨a, b, c, d⟩ => ⟨b, a, d, c⟩⟩

/-- the three argument checks of `plotSystem'` pass -/
structure Guards (l : TL) (x y : Var) (vals : List (Var × Rat)) : Prop where
  x_free : x ∉ vals.map (·.1)
  y_free : y ∉ vals.map (·.1)
  cov : ∀ z ∈ l.vars, z = x ∨ z = y ∨ z ∈ vals.map (·.1)

/-- the two guards of `plotSystem'` of the form `if !(list_diff a b).isEmpty then raise` -/
theorem list_diff_guard_iff {a b : List Var} : (!(Gen.list_diff a b).isEmpty) = true ↔ ¬ ∀ z ∈ a, z ∈ b := by
  rw [Bool.not_eq_true', ← Bool.not_eq_true, Gen.list_diff_isEmpty_iff]

theorem unsetVars_guard_iff :
    (!(Gen.list_diff l.vars (Gen.list_union [x, y] (vals.map (·.1)))).isEmpty) = true ↔
      ¬ ∀ z ∈ l.vars, z = x ∨ z = y ∨ z ∈ vals.map (·.1) := by
  rw [list_diff_guard_iff]
  simp only [Gen.mem_list_union, List.mem_cons, List.not_mem_nil, or_false, or_assoc]

theorem not_guards_iff :
    ¬ Guards l x y vals ↔
      x ∈ vals.map (·.1) ∨ y ∈ vals.map (·.1) ∨ ∃ z ∈ l.vars, z ≠ x ∧ z ≠ y ∧ z ∉ vals.map (·.1) := by
  have hG : Guards l x y vals ↔ x ∉ vals.map (·.1) ∧ y ∉ vals.map (·.1) ∧
      ∀ z ∈ l.vars, z = x ∨ z = y ∨ z ∈ vals.map (·.1) :=
    ⟨fun g => ⟨g.1, g.2, g.3⟩, fun g => ⟨g.1, g.2.1, g.2.2⟩⟩
  rw [hG]
  simp only [not_and_or, not_not, not_forall, not_or, exists_prop]

theorem substAll_boundary (g : Guards l x y vals) {b : PTerm} (hb : b ∈ boundary x y xl yl) :
    substAll b vals = b := by
  apply substAll_of_disjoint
  intro z hz
  rcases boundary_vars hb with e | e <;> rw [e, List.mem_singleton] at hz <;> subst hz
  · exact g.x_free
  · exact g.y_free

theorem boundary_survives (g : Guards l x y vals) {b : PTerm} (hb : b ∈ boundary x y xl yl) :
    (substAll b vals).vars ≠ [] := by
  rw [substAll_boundary g hb]
  rcases boundary_vars hb with e | e <;> rw [e] <;> exact List.cons_ne_nil _ _

/-- a limit row never becomes a violated constant -/
theorem substituteIn_union_err (g : Guards l x y vals) {e : Err} :
    substituteIn (Gen.list_union l (boundary x y xl yl)) vals = .error e ↔
      e = .valueError ∧ ∃ t ∈ l, (substAll t vals).vars = [] ∧ (substAll t vals).const < 0 := by
  rw [substituteIn_err]
  constructor
  · rintro ⟨he, t, ht, hv, hc⟩
    rcases Gen.mem_list_union.mp ht with ht | hb
    · exact ⟨he, t, ht, hv, hc⟩
    · exact absurd hv (boundary_survives g hb)
  · rintro ⟨he, t, ht, hv, hc⟩
    exact ⟨he, t, Gen.mem_list_union.mpr (Or.inl ht), hv, hc⟩

/-- what the substitution leaves when the checks have passed: rows in `x`, `y` only, the four limit rows among them -/
structure PlotRows (x y : Var) (xl yl : Rat × Rat) (plotTl : TL) : Prop where
  sub : ∀ z ∈ plotTl.vars, z = x ∨ z = y
  box : ∀ b ∈ boundary x y xl yl, b ∈ plotTl

variable {plotTl : TL}

theorem PlotRows.mem_vars (R : PlotRows x y xl yl plotTl) : x ∈ plotTl.vars ∧ y ∈ plotTl.vars :=
  ⟨TL.mem_vars.mpr ⟨_, R.box ⟨[(x, 1)], xl.2⟩ (by simp [boundary]), by simp [PTerm.vars, varsL]⟩,
    TL.mem_vars.mpr ⟨_, R.box ⟨[(y, 1)], yl.2⟩ (by simp [boundary]), by simp [PTerm.vars, varsL]⟩⟩

theorem PlotRows.of_substituteIn (g : Guards l x y vals)
    (hs : substituteIn (Gen.list_union l (boundary x y xl yl)) vals = .ok plotTl) : PlotRows x y xl yl plotTl where
  sub := by
    intro z hz
    obtain ⟨t', ht', hz⟩ := TL.mem_vars.mp hz
    obtain ⟨⟨t, ht, rfl⟩, -⟩ := (substituteIn_mem hs).mp ht'
    obtain ⟨hzt, hzk⟩ := substAll_vars.mp hz
    rcases Gen.mem_list_union.mp ht with h | h
    · rcases g.cov z (TL.mem_vars.mpr ⟨t, h, hzt⟩) with a | a | a
      · exact Or.inl a
      · exact Or.inr a
      · exact absurd a hzk
    · rcases boundary_vars h with hv | hv <;> rw [hv, List.mem_singleton] at hzt
      · exact Or.inl hzt
      · exact Or.inr hzt
  box := by
    intro b hb
    have := (substituteIn_mem hs).mpr
      ⟨⟨b, Gen.mem_list_union.mpr (Or.inr hb), rfl⟩, boundary_survives g hb⟩
    rwa [substAll_boundary g hb] at this

theorem substituteIn_vars_nodup (hdict : ∀ t ∈ l, t.vars.Nodup)
    (hs : substituteIn (Gen.list_union l (boundary x y xl yl)) vals = .ok plotTl) : plotTl.vars.Nodup := by
  apply TL.vars_nodup
  intro t' ht'
  obtain ⟨⟨t, ht, rfl⟩, -⟩ := (substituteIn_mem hs).mp ht'
  apply substAll_nodup
  rcases Gen.mem_list_union.mp ht with h1 | h1
  · exact hdict t h1
  · rcases boundary_vars h1 with e | e <;> simp [e]

/-- the ways a run of `plotSystem'` can end.  On success the system is known only if the variable list of the rows has no
    repetition (then there are two plot variables, and the rows are read in the columns `x`, `y` whichever comes first) -/
inductive PlotRun (l : TL) (x y : Var) (vals : List (Var × Rat)) (xl yl : Rat × Rat) :
    Except Err (List HalfPlane × Bool) → Prop
  | badArgs : ¬ Guards l x y vals → PlotRun l x y vals xl yl (.error .valueError)
  | substErr {e : Err} : Guards l x y vals →
      substituteIn (Gen.list_union l (boundary x y xl yl)) vals = .error e → PlotRun l x y vals xl yl (.error e)
  | sameVar {e : Err} : x = y → PlotRun l x y vals xl yl (.error e)
  | ok {plotTl : TL} {H : List HalfPlane} {sw : Bool} : Guards l x y vals →
      substituteIn (Gen.list_union l (boundary x y xl yl)) vals = .ok plotTl →
      (plotTl.vars.Nodup → x ≠ y ∧ H = plotTl.map (hpOf x y)) → PlotRun l x y vals xl yl (.ok (H, sw))

theorem plotSystem'_run (l : TL) (x y : Var) (vals : List (Var × Rat)) (xl yl : Rat × Rat) :
    PlotRun l x y vals xl yl (plotSystem' l x y vals xl yl) := by
  unfold plotSystem'
  by_cases hx : x ∈ vals.map (·.1)
  · rw [if_pos (any_key_iff.mpr hx)]
    exact .badArgs fun g => g.x_free hx
  rw [if_neg (mt any_key_iff.mp hx)]
  by_cases hy : y ∈ vals.map (·.1)
  · rw [if_pos (any_key_iff.mpr hy)]
    exact .badArgs fun g => g.y_free hy
  rw [if_neg (mt any_key_iff.mp hy)]
  by_cases hc : ∀ z ∈ l.vars, z = x ∨ z = y ∨ z ∈ vals.map (·.1)
  swap
  · rw [if_pos (unsetVars_guard_iff.mpr hc)]
    exact .badArgs fun g => hc g.cov
  rw [if_neg (mt unsetVars_guard_iff.mp (not_not.mpr hc))]
  have g : Guards l x y vals := ⟨hx, hy, hc⟩
  cases hs : substituteIn (Gen.list_union l (boundary x y xl yl)) vals with
  | error e =>
    simp only [hs]
    exact .substErr g hs
  | ok plotTl =>
    have R := PlotRows.of_substituteIn g hs
    have hsub := R.sub
    -- the limit rows survive the substitution, so `x` and `y` are among the variables of the rows: the assertion
    -- holds, no variable at all is impossible, and a single variable means `x = y`
    obtain ⟨hxin, hyin⟩ := R.mem_vars
    have hassert : ¬ (!(Gen.list_diff plotTl.vars [x, y]).isEmpty) = true :=
      mt list_diff_guard_iff.mp (not_not.mpr fun z hz => by simpa using hsub z hz)
    simp only [hs]
    rw [if_neg hassert]
    rcases hvs : plotTl.vars with _ | ⟨v0, _ | ⟨v1, r⟩⟩
    · rw [hvs] at hxin
      cases hxin
    · rw [hvs, List.mem_singleton] at hxin hyin
      subst hyin
      simp only [↓reduceIte, List.isEmpty_nil]
      exact .sameVar hxin
    rw [hvs] at hsub
    by_cases hv0 : v0 = y
    · subst hv0
      simp only [↓reduceIte, List.isEmpty_cons, Bool.false_eq_true]
      refine .ok g hs fun hnd => ?_
      rw [hvs] at hnd
      obtain ⟨rfl, hxy, ⟨a, -⟩ | ⟨-, rfl⟩⟩ := two_vars_shape hnd hsub
      · exact absurd a.symm hxy
      · exact ⟨hxy, by simp only [List.map_map, Function.comp_def, toHalfPlane_yx]⟩
    · simp only [hv0, ↓reduceIte, List.isEmpty_cons, Bool.false_eq_true]
      refine .ok g hs fun hnd => ?_
      rw [hvs] at hnd
      obtain ⟨rfl, hxy, ⟨rfl, rfl⟩ | ⟨a, -⟩⟩ := two_vars_shape hnd hsub
      · exact ⟨hxy, by simp only [List.map_map, Function.comp_def, toHalfPlane_xy]⟩
      · exact absurd a hv0

theorem plotSystem_ok {H₀ : List HalfPlane} (hdict : ∀ t ∈ l, t.vars.Nodup)
    (h : plotSystem l x y vals xl yl = .ok H₀) :
    x ≠ y ∧ Guards l x y vals ∧ ∃ plotTl, substituteIn (Gen.list_union l (boundary x y xl yl)) vals = .ok plotTl ∧
      PlotRows x y xl yl plotTl ∧ H₀ = plotTl.map (hpOf x y) := by
  obtain ⟨⟨H, sw⟩, hp, rfl⟩ := Except.map_eq_ok.mp h
  have r := plotSystem'_run l x y vals xl yl
  rw [hp] at r
  cases r with
  | ok g hs hH =>
    obtain ⟨hxy, rfl⟩ := hH (substituteIn_vars_nodup hdict hs)
    exact ⟨hxy, g, _, hs, PlotRows.of_substituteIn g hs, rfl⟩

theorem plotSystem_error_iff (hxy : x ≠ y) (e : Err) :
    plotSystem l x y vals xl yl = .error e ↔ e = .valueError ∧
      (¬ Guards l x y vals ∨ ∃ t ∈ l, (substAll t vals).vars = [] ∧ (substAll t vals).const < 0) := by
  rw [plotSystem, Except.map_eq_error]
  have r := plotSystem'_run l x y vals xl yl
  generalize plotSystem' l x y vals xl yl = res at r ⊢
  cases r with
  | badArgs g => exact ⟨fun h => ⟨(Except.error.inj h).symm, Or.inl g⟩, fun h => by rw [h.1]⟩
  | substErr g hs =>
    -- the two sides are errors of different `Except` types
    rw [or_iff_right (not_not.mpr g), ← substituteIn_union_err g, hs, Except.error.injEq, Except.error.injEq]
  | sameVar hxy' => exact absurd hxy' hxy
  | ok g hs _ =>
    rw [or_iff_right (not_not.mpr g), ← substituteIn_union_err g, hs]
    exact ⟨nofun, nofun⟩

end

theorem exists_argmin {α : Type} (f : α → Rat) : ∀ L : List α, L ≠ [] → ∃ a ∈ L, ∀ b ∈ L, f a ≤ f b
  | [], h => absurd rfl h
  | [a], _ => ⟨a, .head _, fun b hb => by rw [List.mem_singleton.mp hb]⟩
  | a :: c :: r, _ => by
    obtain ⟨m, hm, hmin⟩ := exists_argmin f (c :: r) (List.cons_ne_nil _ _)
    rcases le_total (f a) (f m) with h | h
    · refine ⟨a, .head _, fun b hb => ?_⟩
      rcases List.mem_cons.mp hb with rfl | hb
      exacts [le_refl _, h.trans (hmin b hb)]
    · refine ⟨m, .tail _ hm, fun b hb => ?_⟩
      rcases List.mem_cons.mp hb with rfl | hb
      exacts [h, hmin b hb]

def dot (h : HalfPlane) (d : Rat × Rat) : Rat := h.a * d.1 + h.b * d.2

@[simp] theorem dot_mk (a b c : Rat) (d : Rat × Rat) : dot ⟨a, b, c⟩ d = a * d.1 + b * d.2 := rfl

/-- along the boundary line of `h` the slope of `k` is the determinant of the two normals -/
theorem dot_perp (h k : HalfPlane) : dot k (-h.b, h.a) = HalfPlane.det h k := by
  unfold dot HalfPlane.det
  ring

theorem lhs_move (h : HalfPlane) (p d : Rat × Rat) (t : Rat) :
    h.lhs (p.1 + t * d.1, p.2 + t * d.2) = h.lhs p + t * dot h d := by
  unfold HalfPlane.lhs dot
  ring

/-- slide a feasible point along `d` until a row becomes tight: a row that minimises the distance
    `(h.c - h.lhs p) / dot h d` to travel among those with positive slope along `d` -/
theorem slide {H : List HalfPlane} {p : Rat × Rat} (d : Rat × Rat) (hp : ∀ h ∈ H, h.holds p) (hd : ∃ h ∈ H, 0 < dot h d) :
    ∃ t : Rat, 0 ≤ t ∧ ∃ h ∈ H, 0 < dot h d ∧ h.tight (p.1 + t * d.1, p.2 + t * d.2) ∧
      ∀ k ∈ H, k.holds (p.1 + t * d.1, p.2 + t * d.2) := by
  obtain ⟨h, hm, hmin⟩ := exists_argmin (fun h => (h.c - h.lhs p) / dot h d) (H.filter fun h => 0 < dot h d) (by
    obtain ⟨h, hm, hpos⟩ := hd
    exact List.ne_nil_of_mem (List.mem_filter.mpr ⟨hm, decide_eq_true hpos⟩))
  obtain ⟨hm, hpos⟩ := List.mem_filter.mp hm
  have hpos := of_decide_eq_true hpos
  have hge : 0 ≤ (h.c - h.lhs p) / dot h d := div_nonneg (sub_nonneg.mpr (hp h hm)) hpos.le
  refine ⟨(h.c - h.lhs p) / dot h d, hge, h, hm, hpos, ?_, ?_⟩
  · unfold HalfPlane.tight
    rw [lhs_move, div_mul_cancel₀ _ hpos.ne']
    exact add_sub_cancel _ _
  · intro k hk
    unfold HalfPlane.holds
    rw [lhs_move]
    by_cases hkd : 0 < dot k d
    · exact le_sub_iff_add_le'.mp ((le_div_iff₀ hkd).mp (hmin k (List.mem_filter.mpr ⟨hk, decide_eq_true hkd⟩)))
    · exact add_le_of_le_of_nonpos (hp k hk) (mul_nonpos_of_nonneg_of_nonpos hge (not_lt.mp hkd))

/-- `H` bounds every direction: along every non-zero `d` some row eventually stops the motion -/
def Bounded (H : List HalfPlane) : Prop := ∀ d : Rat × Rat, d ≠ (0, 0) → ∃ h ∈ H, 0 < dot h d

theorem bounded_of_box {H : List HalfPlane} {c1 c2 c3 c4 : Rat}
    (h1 : (⟨1, 0, c1⟩ : HalfPlane) ∈ H) (h2 : (⟨-1, 0, c2⟩ : HalfPlane) ∈ H)
    (h3 : (⟨0, 1, c3⟩ : HalfPlane) ∈ H) (h4 : (⟨0, -1, c4⟩ : HalfPlane) ∈ H) : Bounded H := by
  intro d hd
  rcases lt_trichotomy d.1 0 with hx | hx | hx
  · exact ⟨_, h2, by rw [dot_mk]; linarith⟩
  · rcases lt_trichotomy d.2 0 with hy | hy | hy
    · exact ⟨_, h4, by rw [dot_mk]; linarith⟩
    · exact absurd (Prod.ext hx hy) hd
    · exact ⟨_, h3, by rw [dot_mk]; linarith⟩
  · exact ⟨_, h1, by rw [dot_mk]; linarith⟩

/-- the system produced by the glue contains the four limit rows, hence is bounded -/
theorem plotSystem_bounded {l : TL} {x y : Var} {vals : List (Var × Rat)} {xl yl : Rat × Rat} {H : List HalfPlane}
    (hdict : ∀ t ∈ l, t.vars.Nodup) (h : plotSystem l x y vals xl yl = .ok H) : Bounded H := by
  obtain ⟨hxy, -, plotTl, -, R, rfl⟩ := plotSystem_ok hdict h
  have hbox : (boundary x y xl yl).map (hpOf x y) =
      [⟨1, 0, xl.2⟩, ⟨-1, 0, -xl.1⟩, ⟨0, 1, yl.2⟩, ⟨0, -1, -yl.1⟩] := by
    simp [boundary, hpOf, PTerm.coeff, coeffOf, hxy, hxy.symm]
  have hsub : ∀ hp ∈ (boundary x y xl yl).map (hpOf x y), hp ∈ plotTl.map (hpOf x y) :=
    fun hp hm => List.map_subset _ R.box hm
  rw [hbox] at hsub
  exact bounded_of_box (c1 := xl.2) (c2 := -xl.1) (c3 := yl.2) (c4 := -yl.1)
    (hsub _ (by simp)) (hsub _ (by simp)) (hsub _ (by simp)) (hsub _ (by simp))

theorem angClass_eq_zero (d : Rat × Rat) : angClass d = 0 ↔ d.2 < 0 := by
  unfold angClass
  split_ifs <;> simp [*]

theorem angClass_eq_two (d : Rat × Rat) : angClass d = 2 ↔ 0 < d.2 := by
  unfold angClass
  split_ifs with h
  · simpa using h.le
  all_goals simp [*]

theorem angClass_eq {d e : Rat × Rat} (h : angClass d = angClass e) :
    (d.2 = 0 ∧ e.2 = 0) ∨ 0 < d.2 * e.2 := by
  have hn : d.2 < 0 ↔ e.2 < 0 := by rw [← angClass_eq_zero, ← angClass_eq_zero, h]
  have hp : 0 < d.2 ↔ 0 < e.2 := by rw [← angClass_eq_two, ← angClass_eq_two, h]
  rcases lt_trichotomy d.2 0 with hd | hd | hd
  · exact Or.inr (mul_pos_of_neg_of_neg hd (hn.mp hd))
  · refine Or.inl ⟨hd, le_antisymm (not_lt.mp fun he => ?_) (not_lt.mp fun he => ?_)⟩
    · exact (hp.mpr he).ne' hd
    · exact (hn.mpr he).ne hd
  · exact Or.inr (mul_pos hd (hp.mp hd))

theorem angLe_iff (d e : Rat × Rat) :
    angLe d e = true ↔ angClass d < angClass e ∨ (angClass d = angClass e ∧ 0 ≤ cross d e) := by
  simp [angLe]

theorem cross_antisymm (d e : Rat × Rat) : cross e d = - cross d e := by unfold cross; ring

theorem cross_cocycle (d e f : Rat × Rat) :
    e.2 * cross d f = f.2 * cross d e + d.2 * cross e f := by
  unfold cross
  ring

theorem cross_trans {d e f : Rat × Rat} (hde : angClass d = angClass e) (hef : angClass e = angClass f)
    (A : 0 ≤ cross d e) (B : 0 ≤ cross e f) : 0 ≤ cross d f := by
  rcases angClass_eq hde with ⟨hd, _⟩ | hde'
  · rcases angClass_eq (hde.trans hef) with ⟨_, hf⟩ | h
    · simp [cross, hd, hf]
    · simp [hd] at h
  · rcases angClass_eq hef with ⟨he, _⟩ | hef'
    · simp [he] at hde'
    · -- `e.2² · cross d f = (e.2 · f.2) · cross d e + (d.2 · e.2) · cross e f`
      have : 0 ≤ e.2 * e.2 * cross d f := by
        rw [mul_assoc, cross_cocycle]
        have := add_nonneg (mul_nonneg hef'.le A) (mul_nonneg hde'.le B)
        linarith
      exact nonneg_of_mul_nonneg_right this (mul_self_pos.mpr (fun h => by simp [h] at hef'))

end Plots
