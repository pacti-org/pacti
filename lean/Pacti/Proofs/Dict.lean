import Pacti.Model.Dict
/-!
# Lemmas for C14 (dictionary / file-entry part)

With every repair in place (`Cfg.repaired`) each validator answers `verdict` of its declarative decoder
(`decodeMachine`, `decodeStrings`, `decodeCompound`, `decodeEntry`): it accepts exactly the values that decode and
rejects with `ContractFormatError` only; on an accepted value the reading code computes exactly `build…` of the
decoded fields.
-/
namespace Dict

theorem Cfg.eq_repaired (c : Cfg) (h : c.allRepaired = true) : c = Cfg.repaired := by
  cases c
  simp [Cfg.allRepaired] at h
  simp [Cfg.repaired, h]

@[simp] theorem Cfg.repaired_clauseDictTest : Cfg.repaired.clauseDictTest = true := rfl
@[simp] theorem Cfg.repaired_clauseRaises : Cfg.repaired.clauseRaises = true := rfl
@[simp] theorem Cfg.repaired_clauseNumTest : Cfg.repaired.clauseNumTest = true := rfl
@[simp] theorem Cfg.repaired_fileChecked : Cfg.repaired.fileChecked = true := rfl
@[simp] theorem Cfg.repaired_compoundChecked : Cfg.repaired.compoundChecked = true := rfl
@[simp] theorem Cfg.repaired_fromDictValidates : Cfg.repaired.fromDictValidates = true := rfl
@[simp] theorem Cfg.repaired_catchZeroDiv : Cfg.repaired.catchZeroDiv = true := rfl

theorem documented_iff_mem {e : Err} :
    documented e = true ↔ e ∈ [Err.contractFormat, .valueError, .incompatibleArgs, .syntax, .convex] := by
  cases e <;> simp [documented]

theorem errOf_some {α : Type} {x : Except Err α} {e : Err} (h : errOf x = some e) : x = .error e := by
  cases x with
  | error e' => exact congrArg Except.error (Option.some.inj h)
  | ok _ => cases h

theorem pyGetItem_obj {k : String} {kv : List (String × J)} {v : J} (h : lookup k kv = some v) :
    pyGetItem (.obj kv) k = .ok v := by
  simp only [pyGetItem, h]

theorem J.eqStr_iff {x : J} {s : String} : x.eqStr s = true ↔ x = .str s := by
  cases x <;> simp [J.eqStr]

/-- the answer of a validator on a value its decoder maps to `o`: accepted if it decodes, `ContractFormatError` if not -/
def verdict {α : Type} : Option α → Except Err Unit
  | some _ => .ok ()
  | none => .error .contractFormat

theorem verdict_ok_iff {α : Type} {o : Option α} : verdict o = .ok () ↔ o.isSome = true := by
  cases o <;> simp [verdict]

theorem verdict_error {α : Type} {o : Option α} {e : Err} (h : verdict o = .error e) : e = .contractFormat := by
  cases o with
  | none => cases h; rfl
  | some _ => cases h

theorem asStr_some {x : J} {s : String} (h : asStr x = some s) : x = .str s := by
  cases x with
  | str t => cases h; rfl
  | _ => cases h

theorem asNum_some {x : J} {q : Rat} (h : asNum x = some q) : x = .num q := by
  cases x with
  | num p => cases h; rfl
  | _ => cases h

theorem checkStrItems_spec (l : List J) :
    checkStrItems l = verdict (asStrList l) := by
  induction l with
  | nil => rfl
  | cons x r ih =>
    cases x with
    | str s =>
      simp only [checkStrItems, J.isStr, ↓reduceIte, ih, asStrList, asStr]
      cases asStrList r <;> rfl
    | _ => rfl

theorem asStrList_map {l : List J} {ss : List String} (h : asStrList l = some ss) : l = ss.map .str := by
  induction l generalizing ss with
  | nil => cases h; rfl
  | cons x r ih =>
    simp only [asStrList] at h
    split at h
    next s ts hx hr => cases h; rw [asStr_some hx, ih hr]; rfl
    next => cases h

theorem checkCoeffValues_spec (kv : List (String × J)) :
    checkCoeffValues kv = verdict (asCoeffs kv) := by
  induction kv with
  | nil => rfl
  | cons p r ih =>
    obtain ⟨k, v⟩ := p
    cases v with
    | num q =>
      simp only [checkCoeffValues, J.isNum, ↓reduceIte, ih, asCoeffs, asNum]
      cases asCoeffs r <;> rfl
    | _ => rfl

theorem checkClauseKw_obj (kv : List (String × J)) (kw : String) :
    checkClauseKw Cfg.repaired (.obj kv) kw = match lookup kw kv with
      | none => .error .contractFormat
      | some v => if kw == "coefficients" then
          match v with
          | .obj ckv => checkCoeffValues ckv
          | _ => .error .contractFormat
        else if v.isNum then .ok () else .error .contractFormat := by
  simp only [checkClauseKw, pyIn, pyGetItem, Cfg.repaired]
  cases lookup kw kv with
  | none => rfl
  | some v => cases v <;> cases kw == "coefficients" <;> rfl

theorem checkClause_spec (x : J) :
    checkClause Cfg.repaired x = verdict (asClause x) := by
  cases x with
  | obj kv =>
    have hne : ("constant" == "coefficients") = false := by decide
    simp only [checkClause, Cfg.repaired_clauseDictTest, J.isDict, Bool.not_true, Bool.and_false, Bool.false_eq_true,
      ↓reduceIte, checkClauseKw_obj, hne, beq_self_eq_true, asClause, checkCoeffValues_spec]
    cases lookup "constant" kv with
    | none => rfl
    | some k =>
      cases lookup "coefficients" kv with
      | none => cases k <;> rfl
      | some c =>
        cases k with
        | num q =>
          cases c with
          | obj ckv =>
            dsimp only
            cases asCoeffs ckv <;> rfl
          | _ => rfl
        | _ => rfl
  | _ => rfl

theorem checkClauses_spec (l : List J) :
    checkClauses Cfg.repaired l = verdict (asClauses l) := by
  induction l with
  | nil => rfl
  | cons x r ih =>
    simp only [checkClauses, asClauses, checkClause_spec]
    cases asClause x with
    | none => rfl
    | some t =>
      simp only [verdict, ih]
      cases asClauses r <;> rfl

theorem checkStrLists_spec (l : List J) :
    checkStrLists l = verdict (asStrLists l) := by
  induction l with
  | nil => rfl
  | cons x r ih =>
    cases x with
    | arr l =>
      simp only [checkStrLists, checkStrItems_spec, asStrLists]
      cases asStrList l with
      | none => rfl
      | some s =>
        simp only [verdict, ih]
        cases asStrLists r <;> rfl
    | _ => rfl

theorem validateKw_spec (cfg : Cfg) (machine : Bool) (kv : List (String × J)) (kw : String) (sl : Bool) :
    validateKw cfg machine kv kw sl = match getArr kw kv with
      | none => .error .contractFormat
      | some l => if sl then checkStrItems l else if machine then checkClauses cfg l else .ok () := by
  unfold validateKw getArr
  cases lookup kw kv with
  | none => rfl
  | some v => cases v <;> rfl

theorem validateCompoundKw_spec (kv : List (String × J)) (kw : String) (vars : Bool) :
    validateCompoundKw kv kw vars = match getArr kw kv with
      | none => .error .contractFormat
      | some l => if vars then checkStrItems l else checkStrLists l := by
  unfold validateCompoundKw getArr
  cases lookup kw kv with
  | none => rfl
  | some v => cases v <;> rfl

/- Each validator is evaluated along the branches of its decoder (`fun_cases` names the outcome of every lookup and field
   decoder on the branch): it stops with `ContractFormatError` exactly where the decoder gives up. -/
theorem validate_machine_spec (j nm : J) :
    validateContractDict Cfg.repaired j nm true
      = verdict (decodeMachine j) := by
  fun_cases decodeMachine j <;>
    simp only [validateContractDict, validateKw_spec, checkClauses_spec, checkStrItems_spec, verdict, Bool.not_true,
      Bool.false_eq_true, ↓reduceIte, *]

theorem validate_strings_spec (cfg : Cfg) (j nm : J) :
    validateContractDict cfg j nm false
      = verdict (decodeStrings j) := by
  fun_cases decodeStrings j <;>
    simp only [validateContractDict, validateKw_spec, checkStrItems_spec, verdict, Bool.not_false, ↓reduceIte, *]

theorem validate_compound_spec (j : J) :
    validateCompoundDict j = verdict (decodeCompound j) := by
  fun_cases decodeCompound j <;>
    simp only [validateCompoundDict, validateCompoundKw_spec, checkStrLists_spec, checkStrItems_spec, verdict,
      Bool.false_eq_true, ↓reduceIte, *]

/- Only the last branch of a decoder returns a value, from four fields that were all present and of the right kind. -/
theorem decodeMachine_some {j : J} {r : RawM} (h : decodeMachine j = some r) :
    ∃ kv la lg li lo, j = .obj kv ∧ getArr "assumptions" kv = some la ∧ asClauses la = some r.a
      ∧ getArr "guarantees" kv = some lg ∧ asClauses lg = some r.g
      ∧ getArr "input_vars" kv = some li ∧ asStrList li = some r.ins
      ∧ getArr "output_vars" kv = some lo ∧ asStrList lo = some r.outs := by
  revert h
  fun_cases decodeMachine j
  case case9 kv la ha a haa lg hg g hgg li hi i hii lo ho o hoo =>
    rintro ⟨⟩
    exact ⟨kv, la, lg, li, lo, rfl, ha, haa, hg, hgg, hi, hii, ho, hoo⟩
  all_goals nofun

theorem decodeStrings_some {j : J} {r : RawS} (h : decodeStrings j = some r) :
    ∃ kv la lg li lo, j = .obj kv ∧ getArr "assumptions" kv = some la ∧ asStrList la = some r.a
      ∧ getArr "guarantees" kv = some lg ∧ asStrList lg = some r.g
      ∧ getArr "input_vars" kv = some li ∧ asStrList li = some r.ins
      ∧ getArr "output_vars" kv = some lo ∧ asStrList lo = some r.outs := by
  revert h
  fun_cases decodeStrings j
  case case9 kv la ha a haa lg hg g hgg li hi i hii lo ho o hoo =>
    rintro ⟨⟩
    exact ⟨kv, la, lg, li, lo, rfl, ha, haa, hg, hgg, hi, hii, ho, hoo⟩
  all_goals nofun

theorem decodeCompound_some {j : J} {r : RawC} (h : decodeCompound j = some r) :
    ∃ kv la lg li lo, j = .obj kv ∧ getArr "assumptions" kv = some la ∧ asStrLists la = some r.a
      ∧ getArr "guarantees" kv = some lg ∧ asStrLists lg = some r.g
      ∧ getArr "input_vars" kv = some li ∧ asStrList li = some r.ins
      ∧ getArr "output_vars" kv = some lo ∧ asStrList lo = some r.outs := by
  revert h
  fun_cases decodeCompound j
  case case9 kv la ha a haa lg hg g hgg li hi i hii lo ho o hoo =>
    rintro ⟨⟩
    exact ⟨kv, la, lg, li, lo, rfl, ha, haa, hg, hgg, hi, hii, ho, hoo⟩
  all_goals nofun

theorem getArr_lookup {kw : String} {kv : List (String × J)} {l : List J} (h : getArr kw kv = some l) :
    lookup kw kv = some (.arr l) := by
  revert h
  fun_cases getArr kw kv <;> rintro ⟨⟩
  assumption

theorem asClause_some {x : J} {t : RawTerm} (h : asClause x = some t) :
    ∃ kv ckv, x = .obj kv ∧ lookup "constant" kv = some (.num t.2) ∧ lookup "coefficients" kv = some (.obj ckv)
      ∧ asCoeffs ckv = some t.1 := by
  revert h
  fun_cases asClause x <;> rintro ⟨⟩
  exact ⟨_, _, rfl, ‹_›, ‹_›, ‹_›⟩

theorem asClause_isDict {x : J} {t : RawTerm} (h : asClause x = some t) : x.isDict = true := by
  obtain ⟨kv, ckv, rfl, -⟩ := asClause_some h
  rfl

theorem decodeData_machine (nm : String) (data : J) :
    decodeData nm data (.str "PolyhedralIoContract_machine") = (decodeMachine data).map (.machine nm) := by
  simp [decodeData]

theorem decodeData_strings (nm : String) (data : J) :
    decodeData nm data (.str "PolyhedralIoContract") = (decodeStrings data).map (.strings nm) := by
  simp [decodeData]

theorem decodeData_compound (nm : String) (data : J) :
    decodeData nm data (.str "PolyhedralIoContractCompound") = (decodeCompound data).map (.compound nm) := by
  simp [decodeData]

theorem decodeData_other {nm : String} {data ty : J} (h1 : ty ≠ .str "PolyhedralIoContract_machine")
    (h2 : ty ≠ .str "PolyhedralIoContract") (h3 : ty ≠ .str "PolyhedralIoContractCompound") :
    decodeData nm data ty = none := by
  cases ty <;> simp_all [decodeData]

/-- element-wise relation between two lists of the same length -/
inductive Rel2 {α β : Type} (R : α → β → Prop) : List α → List β → Prop where
  | nil : Rel2 R [] []
  | cons {a b l m} : R a b → Rel2 R l m → Rel2 R (a :: l) (b :: m)

section
variable {T C CC : Type}

theorem parseAll_append (cfg : Cfg) (E : Ext T C CC) (l : List String) :
    parseStrs cfg E l = parseAll cfg E (l.map .str) := rfl

-- `E` is the first explicit argument of every lemma from here to the end of the section.
variable (E : Ext T C CC)

theorem termCoeffs_of_asCoeffs {kv : List (String × J)} {cs : List (String × Rat)}
    (h : asCoeffs kv = some cs) : termCoeffs E kv = .ok (cs.filter fun p => p.2 != 0) := by
  induction kv generalizing cs with
  | nil => cases h; rfl
  | cons p r ih =>
    obtain ⟨k, v⟩ := p
    simp only [asCoeffs] at h
    split at h
    next q ts hq hr =>
      cases h
      cases asNum_some hq
      by_cases hq0 : q = 0
      · simp [termCoeffs, pyNeZero, hq0, ih hr]
      · simp [termCoeffs, pyNeZero, hq0, ih hr, pyFloat]
    next => cases h

theorem termOf_of_asClause {x : J} {t : RawTerm} (h : asClause x = some t) :
    termOf E x = .ok (termOfRaw E t) := by
  obtain ⟨kv, ckv, rfl, hk, hc, ha⟩ := asClause_some h
  simp only [termOf, pyGetItem_obj hk, pyGetItem_obj hc, pyItems, pyFloat, termCoeffs_of_asCoeffs E ha, termOfRaw]

theorem termsOf_of_asClauses {l : List J} {ts : List RawTerm} (h : asClauses l = some ts) :
    l.all J.isDict = true ∧ termsOf E l = .ok (ts.map (termOfRaw E)) := by
  induction l generalizing ts with
  | nil => cases h; exact ⟨rfl, rfl⟩
  | cons x r ih =>
    simp only [asClauses] at h
    split at h
    next t us hx hr =>
      cases h
      obtain ⟨h1, h2⟩ := ih hr
      simp only [List.all_cons, asClause_isDict hx, h1, termsOf, termOf_of_asClause E hx, h2, List.map_cons, Bool.and_self,
        and_self]
    next => cases h

theorem dictTerms_of_asClauses {kv : List (String × J)} {kw : String} {l : List J} {ts : List RawTerm}
    (hg : getArr kw kv = some l) (h : asClauses l = some ts) :
    dictTerms E (.obj kv) kw = .ok (ts.map (termOfRaw E)) := by
  obtain ⟨h1, h2⟩ := termsOf_of_asClauses E h
  simp [dictTerms, pyGetItem, getArr_lookup hg, pyIter, h1, h2]

theorem varList_of_asStrList {l : List J} {ss : List String} (h : asStrList l = some ss) :
    varList E (.arr l) = .ok ss := by
  have := asStrList_map h
  subst this
  simp [varList, pyIter, varName, Function.comp_def]

theorem fromDict_repaired (j : J) (s : Bool) :
    fromDict Cfg.repaired E j s = match decodeMachine j with
      | some r => buildMachine E r s
      | none => .error .valueError := by
  have hv := validate_machine_spec j (.str "")
  cases h : decodeMachine j with
  | some r =>
    rw [h] at hv
    obtain ⟨kv, la, lg, li, lo, rfl, ha, haa, hg, hgg, hi, hii, ho, hoo⟩ := decodeMachine_some h
    have hk : hasAllKeys kv = true := by
      simp [hasAllKeys, getArr_lookup ha, getArr_lookup hg, getArr_lookup hi, getArr_lookup ho]
    simp only [fromDict, hk, Bool.not_true, Bool.false_eq_true, ↓reduceIte, Cfg.repaired_fromDictValidates, hv, verdict,
      dictTerms_of_asClauses E ha haa, dictTerms_of_asClauses E hg hgg, pyGetItem_obj (getArr_lookup hi),
      pyGetItem_obj (getArr_lookup ho), varList_of_asStrList E hii, varList_of_asStrList E hoo, buildMachine]
  | none =>
    rw [h] at hv
    cases j with
    | obj kv =>
      simp only [fromDict, Cfg.repaired_fromDictValidates, ↓reduceIte, hv, verdict]
      cases hasAllKeys kv <;> rfl
    | _ => rfl

theorem parseField_of_asStrList (cfg : Cfg) {l : List J} {ss : List String} (h : asStrList l = some ss) :
    parseField cfg E (.arr l) = parseStrs cfg E ss := by
  have := asStrList_map h
  subst this
  cases ss with
  | nil => simp [parseField, J.truthy, parseStrs, parseAll]
  | cons a r => simp [parseField, J.truthy, parseStrs, pyIter]

theorem parseNestedAll_of_asStrLists (cfg : Cfg) {l : List J} {ss : List (List String)}
    (h : asStrLists l = some ss) : parseNestedAll cfg E l = parseStrLists cfg E ss := by
  induction l generalizing ss with
  | nil => cases h; rfl
  | cons x r ih =>
    cases x with
    | arr l =>
      simp only [asStrLists] at h
      split at h
      next s rs hl hr =>
        cases h
        cases asStrList_map hl
        simp only [parseNestedAll, pyIter, ih hr, parseStrLists, parseStrs]
      next => cases h
    | _ => cases h

theorem parseNestedField_of_asStrLists (cfg : Cfg) {l : List J} {ss : List (List String)}
    (h : asStrLists l = some ss) : parseNestedField cfg E (.arr l) = parseStrLists cfg E ss := by
  cases l with
  | nil =>
    simp [asStrLists] at h
    subst h
    simp [parseNestedField, J.truthy, parseStrLists]
  | cons x r => simp [parseNestedField, J.truthy, pyIter, parseNestedAll_of_asStrLists E cfg h]

theorem load_machine (cfg : Cfg) {kv : List (String × J)} {data name : J}
    (ht : lookup "type" kv = some (.str "PolyhedralIoContract_machine")) (hd : lookup "data" kv = some data)
    (hn : lookup "name" kv = some name) :
    load cfg E (.obj kv) = match validateContractDict cfg data name true with
      | .error e => .error e
      | .ok () => match fromDict cfg E data true with
        | .error e => .error e
        | .ok c => .ok (.simple c, name) := by
  simp only [load, pyGetItem_obj ht, pyGetItem_obj hd, pyGetItem_obj hn, J.eqStr, beq_self_eq_true, ↓reduceIte]
  rfl

theorem load_strings (cfg : Cfg) (hc : cfg.fileChecked = true) {kv : List (String × J)} {data name : J}
    (ht : lookup "type" kv = some (.str "PolyhedralIoContract")) (hd : lookup "data" kv = some data)
    (hn : lookup "name" kv = some name) :
    load cfg E (.obj kv) = match decodeStrings data with
      | none => .error .contractFormat
      | some r => match buildStrings cfg E r true with
        | .error e => .error e
        | .ok c => .ok (.simple c, name) := by
  have h1 : ("PolyhedralIoContract" == "PolyhedralIoContract_machine") = false := by decide
  simp only [load, pyGetItem_obj ht, pyGetItem_obj hd, pyGetItem_obj hn, J.eqStr, h1, beq_self_eq_true, hc,
    Bool.false_eq_true, ↓reduceIte, validate_strings_spec]
  cases hm : decodeStrings data with
  | none => rfl
  | some r =>
    obtain ⟨kv', la, lg, li, lo, rfl, ha, haa, hg, hgg, hi, hii, ho, hoo⟩ := decodeStrings_some hm
    simp only [verdict, pyGetItem_obj (getArr_lookup ha), pyGetItem_obj (getArr_lookup hg),
      pyGetItem_obj (getArr_lookup hi), pyGetItem_obj (getArr_lookup ho), fromStrings, buildStrings,
      parseField_of_asStrList E cfg haa, parseField_of_asStrList E cfg hgg, varList_of_asStrList E hii,
      varList_of_asStrList E hoo]
    rfl

theorem load_compound (cfg : Cfg) (hc : cfg.compoundChecked = true) {kv : List (String × J)} {data name : J}
    (ht : lookup "type" kv = some (.str "PolyhedralIoContractCompound")) (hd : lookup "data" kv = some data)
    (hn : lookup "name" kv = some name) :
    load cfg E (.obj kv) = match decodeCompound data with
      | none => .error .contractFormat
      | some r => match buildCompound cfg E r with
        | .error e => .error e
        | .ok c => .ok (.compound c, name) := by
  have h1 : ("PolyhedralIoContractCompound" == "PolyhedralIoContract_machine") = false := by decide
  have h2 : ("PolyhedralIoContractCompound" == "PolyhedralIoContract") = false := by decide
  simp only [load, pyGetItem_obj ht, pyGetItem_obj hd, pyGetItem_obj hn, J.eqStr, h1, h2, beq_self_eq_true, hc,
    Bool.false_eq_true, ↓reduceIte, validate_compound_spec]
  cases hm : decodeCompound data with
  | none => rfl
  | some r =>
    obtain ⟨kv', la, lg, li, lo, rfl, ha, haa, hg, hgg, hi, hii, ho, hoo⟩ := decodeCompound_some hm
    simp only [verdict, pyGetItem_obj (getArr_lookup ha), pyGetItem_obj (getArr_lookup hg),
      pyGetItem_obj (getArr_lookup hi), pyGetItem_obj (getArr_lookup ho), fromStringsCompound, buildCompound,
      parseNestedField_of_asStrLists E cfg haa, parseNestedField_of_asStrLists E cfg hgg, varList_of_asStrList E hii,
      varList_of_asStrList E hoo]
    rfl

theorem load_other (cfg : Cfg) {kv : List (String × J)} {ty : J}
    (ht : lookup "type" kv = some ty) (h1 : ty ≠ .str "PolyhedralIoContract_machine")
    (h2 : ty ≠ .str "PolyhedralIoContract") (h3 : ty ≠ .str "PolyhedralIoContractCompound") :
    load cfg E (.obj kv) = .error .valueError := by
  simp only [load, pyGetItem_obj ht, J.eqStr_iff, h1, h2, h3, ↓reduceIte]

/-- **Characterisation of the repaired entry reader**: an entry that decodes is read as what it denotes, any
    other value is rejected with `ContractFormatError` or `ValueError`. -/
theorem readEntry_spec (j : J) :
    (∃ d, decodeEntry j = some d ∧ readEntry Cfg.repaired E j = buildEntry Cfg.repaired E d)
    ∨ (decodeEntry j = none ∧ (readEntry Cfg.repaired E j = .error .contractFormat
        ∨ readEntry Cfg.repaired E j = .error .valueError)) := by
  fun_cases decodeEntry j
  case case3 kv ty ht nm hn data hd =>
    -- "type", a string "name" and "data" are there: the first loop passes, the second dispatches on the type
    have hp : precheck Cfg.repaired (.obj kv) = .ok () := by simp [precheck, ht, hn, hd]
    simp only [readEntry, hp]
    by_cases h1 : ty = .str "PolyhedralIoContract_machine"
    · subst h1
      rw [load_machine E _ ht hd hn, validate_machine_spec, decodeData_machine]
      cases hm : decodeMachine data with
      | none => exact .inr ⟨rfl, .inl rfl⟩
      | some r =>
        refine .inl ⟨.machine nm r, rfl, ?_⟩
        simp only [fromDict_repaired, hm, buildEntry]
        rfl
    by_cases h2 : ty = .str "PolyhedralIoContract"
    · subst h2
      rw [load_strings E _ rfl ht hd hn, decodeData_strings]
      cases decodeStrings data with
      | none => exact .inr ⟨rfl, .inl rfl⟩
      | some r => exact .inl ⟨.strings nm r, rfl, rfl⟩
    by_cases h3 : ty = .str "PolyhedralIoContractCompound"
    · subst h3
      rw [load_compound E _ rfl ht hd hn, decodeData_compound]
      cases decodeCompound data with
      | none => exact .inr ⟨rfl, .inl rfl⟩
      | some r => exact .inl ⟨.compound nm r, rfl, rfl⟩
    exact .inr ⟨decodeData_other h1 h2 h3, .inr (load_other E _ ht h1 h2 h3)⟩
  -- every other branch lacks one of the three keys, or the name is no string: the first loop rejects
  all_goals
    right
    simp [readEntry, precheck, *]

theorem tlFromString_doc (hE : E.Documented) {s : String} {e : Err}
    (h : tlFromString Cfg.repaired E (.str s) = .error e) : documented e = true := by
  simp only [tlFromString, Cfg.repaired_catchZeroDiv, Bool.and_true, beq_iff_eq] at h
  split at h
  next x hg =>
    split at h
    · cases h
      rfl
    next hz =>
      cases h
      exact (hE.grammar_doc s e hg).resolve_right hz
  next => cases h

theorem parseStrs_doc (hE : E.Documented) {l : List String} {e : Err}
    (h : parseStrs Cfg.repaired E l = .error e) : documented e = true := by
  induction l with
  | nil => cases h
  | cons s r ih =>
    simp only [parseStrs, List.map_cons, parseAll] at h
    split at h
    next hs => cases h; exact tlFromString_doc E hE hs
    next =>
      split at h
      next hr => cases h; exact ih hr
      next => cases h

theorem parseStrLists_doc (hE : E.Documented) {l : List (List String)} {e : Err}
    (h : parseStrLists Cfg.repaired E l = .error e) : documented e = true := by
  fun_induction parseStrLists Cfg.repaired E l
  case case1 => cases h
  case case2 hs => cases h; exact parseStrs_doc E hE hs
  case case3 hr ih => cases h; exact ih hr
  case case4 => cases h

theorem buildStrings_doc (hE : E.Documented) {r : RawS} {s : Bool} {e : Err}
    (h : buildStrings Cfg.repaired E r s = .error e) : documented e = true := by
  revert h
  fun_cases buildStrings Cfg.repaired E r s
  · rintro ⟨⟩
    exact parseStrs_doc E hE ‹_›
  · rintro ⟨⟩
    exact parseStrs_doc E hE ‹_›
  · exact hE.mk_doc _ _ _ _ _ _

theorem buildCompound_doc (hE : E.Documented) {r : RawC} {e : Err}
    (h : buildCompound Cfg.repaired E r = .error e) : documented e = true := by
  revert h
  fun_cases buildCompound Cfg.repaired E r
  · rintro ⟨⟩
    exact parseStrLists_doc E hE ‹_›
  · rintro ⟨⟩
    exact parseStrLists_doc E hE ‹_›
  · exact hE.mkCompound_doc _ _ _ _ _

theorem buildEntry_doc (hE : E.Documented) {d : Decoded} {e : Err}
    (h : buildEntry Cfg.repaired E d = .error e) : documented e = true := by
  revert h
  fun_cases buildEntry Cfg.repaired E d <;> rintro ⟨⟩
  · exact hE.mk_doc _ _ _ _ _ _ ‹_›
  · exact buildStrings_doc E hE ‹_›
  · exact buildCompound_doc E hE ‹_›

theorem readEntry_doc (hE : E.Documented) {j : J} {e : Err}
    (h : readEntry Cfg.repaired E j = .error e) : documented e = true := by
  rcases readEntry_spec E j with ⟨d, _, hd⟩ | ⟨_, hd | hd⟩
  · exact buildEntry_doc E hE (hd ▸ h)
  · cases hd.symm.trans h
    rfl
  · cases hd.symm.trans h
    rfl

/-- Only "some entry fails with `e`" is claimed, not "the first failing entry does": all entries are prechecked before
    the first is loaded, so a later entry's precheck error comes before an earlier entry's load error. -/
theorem readFile_arr_spec (cfg : Cfg) (l : List J) :
    match readFile cfg E (.arr l) with
    | .ok cs => Rel2 (fun x c => readEntry cfg E x = .ok c) l cs
    | .error e => ∃ x ∈ l, readEntry cfg E x = .error e := by
  induction l with
  | nil => exact .nil
  | cons x r ih =>
    simp only [readFile, precheckAll, loadAll] at ih ⊢
    cases hx : precheck cfg x with
    | error y => exact ⟨x, List.mem_cons_self, by simp only [readEntry, hx]⟩
    | ok u =>
      have hr : readEntry cfg E x = load cfg E x := by simp only [readEntry, hx]
      cases hp : precheckAll cfg r with
      | error y =>
        simp only [hp] at ih
        obtain ⟨z, hz, hz'⟩ := ih
        exact ⟨z, List.mem_cons_of_mem _ hz, hz'⟩
      | ok u =>
        simp only [hp] at ih
        cases hl : load cfg E x with
        | error y => exact ⟨x, List.mem_cons_self, hr.trans hl⟩
        | ok c =>
          cases hrest : loadAll cfg E r with
          | error y =>
            simp only [hrest] at ih
            obtain ⟨z, hz, hz'⟩ := ih
            exact ⟨z, List.mem_cons_of_mem _ hz, hz'⟩
          | ok cs =>
            simp only [hrest] at ih
            exact .cons (hr.trans hl) ih

end

theorem tableExt_documented (g : List (String × Except Err (List RawTerm))) (fl : List (String × Rat))
    (hg : ∀ p ∈ g, ∀ e, p.2 = .error e → documented e = true ∨ e = eZeroDiv) : (tableExt g none fl).Documented where
  grammar_doc s e h := by
    simp only [tableExt] at h
    split at h
    · next p hp => exact hg p (List.mem_of_find?_eq_some hp) e h
    · cases h
      exact .inl rfl
  mk_doc a g i o s e h := nomatch h
  mkCompound_doc a g i o e h := nomatch h

theorem apply_errors (op : Arith.Op) (a b : Rat) (x : Err) (h : Arith.apply op a b = .error x) : x = eZeroDiv := by
  revert h
  fun_cases Arith.apply op a b <;> rintro ⟨⟩
  rfl

theorem applyAll_errors (l : List (Arith.Op × Rat)) (a : Rat) (x : Err) (h : Arith.applyAll a l = .error x) : x = eZeroDiv := by
  fun_induction Arith.applyAll a l
  case case1 => cases h
  case case2 h1 => cases h; exact apply_errors _ _ _ _ h1
  case case3 ih => exact ih h

end Dict
