import Pacti.Model.Elim
import Pacti.Proofs.Eval
/-! A term read as the expression `lhs − const`, how the operations of `PolyhedralTerm` act on it, and what every
    tactic but 5 establishes of its result (`Gains`). -/

namespace Elim

/-- a term read as the expression `lhs − const` (the term holds iff the expression is ≤ 0) -/
def expr (t : PTerm) (v : Val) : Rat := evalL t.coeffs v - t.const

theorem holds_iff_expr (t : PTerm) (v : Val) : t.holds v ↔ expr t v ≤ 0 := by
  unfold PTerm.holds expr
  constructor <;> intro h <;> linarith

theorem expr_mk' (l : Lin) (c : Rat) (v : Val) : expr (PTerm.mk' l c) v = evalL l v - c := by
  unfold expr PTerm.mk'
  rw [evalL_normC]

theorem expr_scale (t : PTerm) (k : Rat) (v : Val) : expr (t.scale k) v = k * expr t v := by
  unfold PTerm.scale
  rw [expr_mk', evalL_scaleL]
  unfold expr
  ring

theorem expr_subst (t s : PTerm) (x : Var) (v : Val) :
    expr (t.subst x s) v = expr t v + t.coeff x * (expr s v - v x) := by
  fun_cases PTerm.subst t x s
  · unfold expr PTerm.add PTerm.remove PTerm.scale PTerm.mk' PTerm.coeff
    simp only
    rw [evalL_addL, evalL_filter_ne, evalL_normC, evalL_scaleL]
    ring
  · rename_i h
    unfold PTerm.coeff
    rw [coeffOf_eq_zero_of_not_mem x _ fun hm => h ((PTerm.containsVar_iff t x).mpr hm)]
    ring

theorem expr_update (t : PTerm) (v : Val) (x : Var) (a : Rat) :
    expr t (Function.update v x a) = expr t v + t.coeff x * (a - v x) := by
  unfold expr PTerm.coeff
  rw [evalL_update]
  ring

/-- indicator valuation of `x`: evaluating at it reads off the coefficient -/
def indVal (x : Var) : Val := Function.update (fun _ => 0) x 1

theorem indVal_apply (x y : Var) : indVal x y = if y = x then 1 else 0 := Function.update_apply _ _ _ _

theorem evalL_indVal (l : Lin) (x : Var) : evalL l (indVal x) = coeffOf x l := by
  rw [indVal, evalL_update, evalL_zero]
  ring

theorem coeffOf_scaleL (x : Var) (k : Rat) (l : Lin) : coeffOf x (scaleL k l) = k * coeffOf x l := by
  rw [← evalL_indVal, evalL_scaleL, evalL_indVal]

theorem coeffOf_addL (x : Var) (a b : Lin) : coeffOf x (addL a b) = coeffOf x a + coeffOf x b := by
  rw [← evalL_indVal, evalL_addL, evalL_indVal, evalL_indVal]

theorem coeff_mk' (l : Lin) (c : Rat) (x : Var) : (PTerm.mk' l c).coeff x = coeffOf x l := by
  unfold PTerm.coeff PTerm.mk'
  rw [← evalL_indVal, ← evalL_indVal, evalL_normC]

theorem coeff_eq_expr (t : PTerm) (x : Var) : t.coeff x = expr t (indVal x) - expr t (fun _ => 0) := by
  rw [indVal, expr_update]
  ring

theorem coeff_subst (t s : PTerm) (x y : Var) :
    (t.subst x s).coeff y = t.coeff y + t.coeff x * (s.coeff y - if x = y then 1 else 0) := by
  rw [coeff_eq_expr, expr_subst, expr_subst, coeff_eq_expr t y, coeff_eq_expr s y]
  simp only [indVal_apply]
  ring

theorem tcOf_true : tcOf true = 1 := rfl
theorem tcOf_false : tcOf false = -1 := rfl

theorem tcOf_cases (refine : Bool) : tcOf refine = 1 ∨ tcOf refine = -1 := by
  unfold tcOf
  cases refine <;> simp

/-- `r` replaces `t` soundly in the direction `refine` by an inequality between expressions, not merely between truth
    values: wherever `H` holds, the expression of `r` lies above (refining) / below (relaxing) that of `t` -/
def Gains (refine : Bool) (H : TL) (t r : PTerm) : Prop :=
  ∀ v, TL.holds H v → 0 ≤ tcOf refine * (expr r v - expr t v)

theorem gains_true_iff {H : TL} {t r : PTerm} : Gains true H t r ↔ ∀ v, TL.holds H v → expr t v ≤ expr r v := by
  unfold Gains
  simp only [tcOf_true, one_mul, sub_nonneg]

/-- what `TacSound` asks -/
theorem Gains.sound {refine : Bool} {H : TL} {t r : PTerm} (h : Gains refine H t r) (v : Val) (hH : TL.holds H v) :
    if refine then (r.holds v → t.holds v) else (t.holds v → r.holds v) := by
  have h := h v hH
  simp only [holds_iff_expr]
  cases refine
  · rw [if_neg Bool.false_ne_true]
    intro ht
    rw [tcOf_false] at h
    linarith
  · rw [if_pos rfl]
    intro hr
    rw [tcOf_true] at h
    linarith

theorem Gains.refl (refine : Bool) (H : TL) (t : PTerm) : Gains refine H t t := fun v _ => by
  rw [sub_self, mul_zero]

end Elim
