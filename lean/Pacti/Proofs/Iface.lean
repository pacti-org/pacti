import Pacti.Gen.Iface
import Pacti.Proofs.Lists
/-! Where the *generated* interface computations (`Gen.compose_iface`, `Gen.quotient_iface`) put a variable, and when
    their reject flags are set; about arbitrary lists, re-proved whenever `iocontract.py` changes. -/
namespace Gen
variable {α : Type} [DecidableEq α] {si so oi oo sa oa keep addl : List α} {x : α}

theorem mem_compose_inputvars : x ∈ (compose_iface si so oi oo sa oa keep).inputvars ↔
    (x ∈ si ∨ x ∈ oi) ∧ ¬ (x ∈ so ∧ x ∈ oi) ∧ ¬ (x ∈ si ∧ x ∈ oo) := by
  simp only [compose_iface, mem_list_diff, mem_list_union, mem_list_intersection, not_or]

theorem mem_compose_outputvars : x ∈ (compose_iface si so oi oo sa oa keep).outputvars ↔
    ((x ∈ so ∨ x ∈ oo) ∧ ¬ (x ∈ so ∧ x ∈ oi) ∧ ¬ (x ∈ si ∧ x ∈ oo)) ∨ x ∈ keep := by
  simp only [compose_iface, mem_list_diff, mem_list_union, mem_list_intersection, not_or]

theorem mem_compose_intvars : x ∈ (compose_iface si so oi oo sa oa keep).intvars ↔
    (x ∈ so ∧ x ∈ oi ∨ x ∈ si ∧ x ∈ oo) ∧ x ∉ keep := by
  simp only [compose_iface, mem_list_diff, mem_list_union, mem_list_intersection]

theorem compose_intvars_not_iface (h : x ∈ (compose_iface si so oi oo sa oa keep).intvars) :
    x ∉ (compose_iface si so oi oo sa oa keep).inputvars ∧ x ∉ (compose_iface si so oi oo sa oa keep).outputvars := by
  rw [mem_compose_intvars] at h
  rw [mem_compose_inputvars, mem_compose_outputvars]
  obtain ⟨hc, hk⟩ := h
  refine ⟨fun hi => ?_, fun ho => ?_⟩
  · exact hc.elim hi.2.1 hi.2.2
  · exact ho.elim (fun ho => hc.elim ho.2.1 ho.2.2) hk

theorem mem_quotient_inputvars : x ∈ (quotient_iface si so oi oo addl).inputvars ↔
    (x ∈ si ∧ x ∉ oi) ∨ (x ∈ oo ∧ x ∉ so) ∨ x ∈ addl := by
  simp only [quotient_iface, mem_list_diff, mem_list_union, or_assoc]

theorem mem_quotient_outputvars : x ∈ (quotient_iface si so oi oo addl).outputvars ↔
    (x ∈ so ∧ x ∉ oo) ∨ (x ∈ oi ∧ x ∉ si) := by
  simp only [quotient_iface, mem_list_diff, mem_list_union]

variable (sa oa keep) in
/-- operands that share no wire: nothing internal, and the plain branch of the assumption computation -/
theorem compose_iface_unconnected (h1 : ∀ x, ¬ (x ∈ so ∧ x ∈ oi)) (h2 : ∀ x, ¬ (x ∈ si ∧ x ∈ oo)) :
    (compose_iface si so oi oo sa oa keep).intvars = [] ∧ (compose_iface si so oi oo sa oa keep).branch_feedback = false ∧
    (compose_iface si so oi oo sa oa keep).branch_self_helps = false ∧
    (compose_iface si so oi oo sa oa keep).branch_other_helps = false := by
  have e1 : list_intersection oi so = [] := List.eq_nil_iff_forall_not_mem.mpr fun x hx =>
    h1 x (mem_list_intersection.mp hx).symm
  have e2 : list_intersection oo si = [] := List.eq_nil_iff_forall_not_mem.mpr fun x hx =>
    h2 x (mem_list_intersection.mp hx).symm
  refine ⟨List.eq_nil_iff_forall_not_mem.mpr fun x hx => ?_, ?_, ?_, ?_⟩
  · exact (mem_compose_intvars.mp hx).1.elim (h1 x) (h2 x)
  -- each branch flag asks for a variable in `oi ∩ so` or in `oo ∩ si`
  all_goals simp [compose_iface, e1, e2]

theorem shares_io_with_iff {a b c d : List α} :
    shares_io_with a b c d = true ↔ (∀ x, x ∈ a ↔ x ∈ c) ∧ (∀ x, x ∈ b ↔ x ∈ d) := by
  simp only [shares_io_with, Bool.and_eq_true, lists_equal_iff]

theorem compose_reject_keep : (compose_iface si so oi oo sa oa keep).reject_keep = true ↔ ∃ x ∈ keep, x ∉ so ∧ x ∉ oo := by
  simp only [compose_iface, Bool.not_eq_eq_eq_not, Bool.not_true, List.isEmpty_eq_false_iff_exists_mem, mem_list_diff,
    mem_list_union, not_or]

theorem compose_reject_io : (compose_iface si so oi oo sa oa keep).reject_io = true ↔ ∃ x, x ∈ so ∧ x ∈ oo := by
  simp only [compose_iface, can_compose_with, Bool.not_eq_eq_eq_not, Bool.not_true, decide_eq_false_iff_not,
    ← Nat.pos_iff_ne_zero, List.length_pos_iff_exists_mem, mem_list_intersection]

theorem compose_branch_feedback : (compose_iface si so oi oo sa oa keep).branch_feedback = true ↔
    (∃ x, x ∈ si ∧ x ∈ oo) ∧ (∃ x, x ∈ oi ∧ x ∈ so) ∧ ((∃ x, x ∈ oo ∧ x ∈ sa) ∨ ∃ x, x ∈ so ∧ x ∈ oa) := by
  simp only [compose_iface, Bool.and_eq_true, Bool.or_eq_true, decide_eq_true_eq, gt_iff_lt, List.length_pos_iff_exists_mem,
    mem_list_intersection, and_assoc]

theorem quotient_reject_io : (quotient_iface si so oi oo addl).reject_io = true ↔ ∃ x, (x ∈ so ∧ x ∉ oo) ∧ x ∈ oi := by
  simp only [quotient_iface, can_quotient_by, Bool.not_eq_eq_eq_not, Bool.not_true, decide_eq_false_iff_not,
    ← Nat.pos_iff_ne_zero, List.length_pos_iff_exists_mem, mem_list_intersection, mem_list_diff]

theorem quotient_reject_additional : (quotient_iface si so oi oo addl).reject_additional = true ↔ ∃ x ∈ addl, x ∉ oo ∧ x ∉ si := by
  simp only [quotient_iface, Bool.not_eq_eq_eq_not, Bool.not_true, List.isEmpty_eq_false_iff_exists_mem, mem_list_diff,
    mem_list_union, not_or]

end Gen
