import Pacti.Model.Elim
import Pacti.Proofs.Reduce
import Pacti.Proofs.Expr
/-! `elimRefine` / `elimRelax` preserve implication for every table of tactics that are sound (`TacSound`) where the order
    uses them; tactics 2 and 5 are sound on a certified LP oracle. -/

namespace Elim

/-- what the property asks of one tactic: whatever it returns is implied-by / implies the term in the context -/
def TacSound (tac : Nat → PTerm → TL → List Var → Bool → TacticRes) (k : Nat) : Prop :=
  ∀ t H xs refine r, tac k t H xs refine = .ok (some r) →
    ∀ v, TL.holds H v → (if refine then (r.holds v → t.holds v) else (t.holds v → r.holds v))

theorem presimp_equiv {O : Oracle} (hO : O.Certified) {tie : PTerm → Bool} {l l' ctx : TL} {simp : Bool}
    (h : (if simp then Poly.simplify O tie l (some ctx) else .ok l) = .ok l') (v : Val) (hc : TL.holds ctx v) :
    TL.holds l' v ↔ TL.holds l v := by
  split at h
  · exact (Poly.simplify_ok O hO tie l (some ctx) _ h).2.1 v hc
  · cases h
    rfl

section
variable {tac : Nat → PTerm → TL → List Var → Bool → TacticRes} {ctx : TL} {xs : List Var} {refine : Bool} {ord : List Nat}

theorem transformTerm_sound {t nt : PTerm} {H : TL} {k : Int} (hs : ∀ j ∈ ord, TacSound tac j)
    (h : transformTerm tac t H xs refine ord = .ok (nt, k)) :
    ∀ v, TL.holds H v → (if refine then (nt.holds v → t.holds v) else (t.holds v → nt.holds v)) := by
  revert h
  fun_induction transformTerm tac t H xs refine ord
  case case1 =>
    rintro ⟨⟩ v _
    split <;> exact id
  case case2 j _ _ hr =>
    rintro ⟨⟩
    exact hs j List.mem_cons_self t H xs refine _ hr
  case case3 ih => exact ih fun i hi => hs i (List.mem_cons_of_mem _ hi)
  case case4 ih => exact ih fun i hi => hs i (List.mem_cons_of_mem _ hi)
  case case5 => nofun

/-- one round of the loop of `_transform`; the helpers are the other terms, transformed already or still to do -/
theorem transformLoop_cons_ok {done rest out : TL} {t : PTerm} {used : List Int}
    (h : transformLoop tac ctx xs refine ord done (t :: rest) = .ok (out, used)) :
    ∃ nt used', transformLoop tac ctx xs refine ord (done ++ [nt]) rest = .ok (out, used') ∧
      (nt = t ∨ ∃ k, transformTerm tac t (Gen.list_union ctx ((done ++ t :: rest).erase t)) xs refine ord = .ok (nt, k)) := by
  generalize hl : t :: rest = todo at h
  revert hl h
  fun_cases transformLoop tac ctx xs refine ord done todo
  case case7 =>
    -- the term has no variable to eliminate
    rintro ⟨⟩ h
    exact ⟨t, _, h, .inl rfl⟩
  all_goals rintro ⟨⟩ ⟨⟩
  · -- `_transform_term` raised ValueError: the term is kept
    exact ⟨t, _, ‹_›, .inl rfl⟩
  · exact ⟨_, _, ‹_›, .inr ⟨_, ‹_›⟩⟩

/-- `done`, the transformed prefix, is itself a helper for what follows.  Relaxing, truth is carried forward into
    `done`; refining, it is recovered backwards from `out`: hence the different shapes of the two statements. -/
theorem transformLoop_relax (hs : ∀ j ∈ ord, TacSound tac j) {todo done out : TL} {used : List Int}
    (h : transformLoop tac ctx xs false ord done todo = .ok (out, used)) (v : Val) (hc : TL.holds ctx v)
    (hd : TL.holds done v) (ht : TL.holds todo v) : TL.holds out v := by
  induction todo generalizing done used with
  | nil => cases h; exact hd
  | cons t rest ih =>
    obtain ⟨htv, hrest⟩ := TL.holds_cons.mp ht
    obtain ⟨nt, used', hrec, hnt⟩ := transformLoop_cons_ok h
    refine ih hrec (TL.holds_append.mpr ⟨hd, TL.holds_singleton.mpr ?_⟩) hrest
    rcases hnt with rfl | ⟨k, htt⟩
    · exact htv
    · exact transformTerm_sound hs htt v
        (TL.holds_union.mpr ⟨hc, (TL.holds_append.mpr ⟨hd, ht⟩).erase _⟩) htv

theorem transformLoop_refine (hs : ∀ j ∈ ord, TacSound tac j) {todo done out : TL} {used : List Int}
    (h : transformLoop tac ctx xs true ord done todo = .ok (out, used)) (v : Val) (hc : TL.holds ctx v)
    (ho : TL.holds out v) : TL.holds (done ++ todo) v := by
  induction todo generalizing done used with
  | nil => cases h; simpa using ho
  | cons t rest ih =>
    obtain ⟨nt, used', hrec, hnt⟩ := transformLoop_cons_ok h
    have hall := ih hrec
    simp only [List.append_assoc, List.cons_append, List.nil_append, TL.holds_append, TL.holds_cons] at hall ⊢
    obtain ⟨hd, hnt', hrest⟩ := hall
    refine ⟨hd, ?_, hrest⟩
    rcases hnt with rfl | ⟨k, htt⟩
    · exact hnt'
    -- a second copy of `t` among the helpers is the only way `t` itself could have been used to refine `t`
    by_cases hdup : t ∈ done ++ rest
    · exact (List.mem_append.mp hdup).elim (hd t) (hrest t)
    · have herase : (done ++ t :: rest).erase t = done ++ rest := by
        rw [List.erase_append_right _ (fun h1 => hdup (List.mem_append_left _ h1)), List.erase_cons_head]
      rw [herase] at htt
      exact transformTerm_sound hs htt v
        (TL.holds_union.mpr ⟨hc, TL.holds_append.mpr ⟨hd, hrest⟩⟩) hnt'

theorem transform_ok {O : Oracle} (hO : O.Certified) {tie : PTerm → Bool} {l r : TL} {simp : Bool} {used : List Int}
    (h : transform O tie tac l ctx xs refine simp ord = .ok (r, used)) :
    ∃ that, transformLoop tac ctx xs refine ord [] l = .ok (that, used) ∧
      ∀ v, TL.holds ctx v → (TL.holds r v ↔ TL.holds that v) := by
  revert h
  fun_cases transform O tie tac l ctx xs refine simp ord <;> rintro ⟨⟩
  · exact ⟨_, ‹_›, (Poly.simplify_ok O hO tie _ (some ctx) _ ‹_›).2.1⟩
  · exact ⟨_, ‹_›, fun _ _ => Iff.rfl⟩

theorem elimRefine_ok {O : Oracle} {tie : PTerm → Bool} {l r : TL} {simp : Bool} {used : List Int}
    (h : elimRefine O tie tac l ctx xs simp ord = .ok (r, used)) :
    ∃ l', (if simp then Poly.simplify O tie l (some ctx) else .ok l) = .ok l' ∧
      transform O tie tac l' ctx xs true simp ord = .ok (r, used) := by
  revert h
  fun_cases elimRefine O tie tac l ctx xs simp ord
  · nofun
  · exact fun h => ⟨_, ‹_›, h⟩

theorem elimRelax_ok {O : Oracle} {tie : PTerm → Bool} {l r : TL} {simp : Bool} {used : List Int}
    (h : elimRelax O tie tac l ctx xs simp ord = .ok (r, used)) :
    ∃ l' r', (if simp then Poly.simplify O tie l (some ctx) else .ok l) = .ok l' ∧
      transform O tie tac l' ctx xs false simp ord = .ok (r', used) ∧ r = Gen.list_diff r' (TL.withVars r' xs) := by
  revert h
  fun_cases elimRelax O tie tac l ctx xs simp ord <;> rintro ⟨⟩
  exact ⟨_, _, ‹_›, ‹_›, rfl⟩

end

theorem transform_refine_sound (O : Oracle) (hO : O.Certified) (tie : PTerm → Bool) (tac : Nat → PTerm → TL → List Var → Bool → TacticRes)
    (l ctx : TL) (xs : List Var) (simp : Bool) (ord : List Nat) (hs : ∀ j ∈ ord, TacSound tac j) (r : TL) (used : List Int)
    (h : transform O tie tac l ctx xs true simp ord = .ok (r, used)) :
    ∀ v, TL.holds ctx v → TL.holds r v → TL.holds l v := by
  obtain ⟨that, hloop, heq⟩ := transform_ok hO h
  intro v hc hr
  simpa using transformLoop_refine hs hloop v hc ((heq v hc).mp hr)

theorem transform_relax_sound (O : Oracle) (hO : O.Certified) (tie : PTerm → Bool) (tac : Nat → PTerm → TL → List Var → Bool → TacticRes)
    (l ctx : TL) (xs : List Var) (simp : Bool) (ord : List Nat) (hs : ∀ j ∈ ord, TacSound tac j) (r : TL) (used : List Int)
    (h : transform O tie tac l ctx xs false simp ord = .ok (r, used)) :
    ∀ v, TL.holds ctx v → TL.holds l v → TL.holds r v := by
  obtain ⟨that, hloop, heq⟩ := transform_ok hO h
  exact fun v hc hl => (heq v hc).mpr (transformLoop_relax hs hloop v hc (TL.holds_nil v) hl)

theorem elimRefine_sound (O : Oracle) (hO : O.Certified) (tie : PTerm → Bool) (tac : Nat → PTerm → TL → List Var → Bool → TacticRes)
    (l ctx : TL) (xs : List Var) (simp : Bool) (ord : List Nat) (hs : ∀ j ∈ ord, TacSound tac j) (r : TL) (used : List Int)
    (h : elimRefine O tie tac l ctx xs simp ord = .ok (r, used)) :
    ∀ v, TL.holds ctx v → TL.holds r v → TL.holds l v := by
  obtain ⟨l', hpre, htr⟩ := elimRefine_ok h
  intro v hc hr
  exact (presimp_equiv hO hpre v hc).mp (transform_refine_sound O hO tie tac l' ctx xs simp ord hs r used htr v hc hr)

theorem elimRelax_sound (O : Oracle) (hO : O.Certified) (tie : PTerm → Bool) (tac : Nat → PTerm → TL → List Var → Bool → TacticRes)
    (l ctx : TL) (xs : List Var) (simp : Bool) (ord : List Nat) (hs : ∀ j ∈ ord, TacSound tac j) (r : TL) (used : List Int)
    (h : elimRelax O tie tac l ctx xs simp ord = .ok (r, used)) :
    ∀ v, TL.holds ctx v → TL.holds l v → TL.holds r v := by
  obtain ⟨l', r', hpre, htr, rfl⟩ := elimRelax_ok h
  intro v hc hl t ht
  exact transform_relax_sound O hO tie tac l' ctx xs simp ord hs r' used htr v hc
    ((presimp_equiv hO hpre v hc).mpr hl) t (Gen.mem_list_diff.mp ht).1

theorem elimRelax_no_elim_vars (O : Oracle) (tie : PTerm → Bool) (tac : Nat → PTerm → TL → List Var → Bool → TacticRes)
    (l ctx : TL) (xs : List Var) (simp : Bool) (ord : List Nat) (r : TL) (used : List Int)
    (h : elimRelax O tie tac l ctx xs simp ord = .ok (r, used)) : ∀ t ∈ r, ∀ x ∈ t.vars, x ∉ xs := by
  obtain ⟨l', r', _, _, rfl⟩ := elimRelax_ok h
  intro t ht x hx hxs
  obtain ⟨h1, h2⟩ := Gen.mem_list_diff.mp ht
  exact h2 (TL.mem_withVars.mpr ⟨h1, x, hx, hxs⟩)

/-- `evalL_dir`, `ite_neg_eq_tcOf`: where tactic 2 negates when relaxing (objective, bound), written with `tcOf` -/
theorem evalL_dir (refine : Bool) (l : Lin) (v : Val) :
    evalL (if refine then l else scaleL (-1) l) v = tcOf refine * evalL l v := by
  cases refine <;> simp [tcOf, evalL_scaleL]

theorem ite_neg_eq_tcOf (refine : Bool) (m : ℚ) : (if refine then m else -m) = tcOf refine * m := by
  cases refine <;> simp [tcOf]

/-- the LP bounds the eliminated part of `t` by `m` over `nctx` (the context rows on eliminated variables only); the
    result replaces that part by the bound -/
theorem tactic2_gains {O : Oracle} (hO : O.Certified) {t : PTerm} {H : TL} {xs : List Var} {refine : Bool} {r : PTerm}
    (h : tactic2 O t H xs refine = .ok (some r)) : Gains refine H t r := by
  intro v hH
  revert h
  fun_cases tactic2 O t H xs refine
  case case3 =>
    -- the bounded term would have no variable left: the term itself is returned
    rintro ⟨⟩
    exact Gains.refl _ H t v hH
  case case4 conflict nctx _ hcov elimPart m _ hlp repl res _ =>
    intro h
    obtain rfl : res = r := Option.some.inj (Except.ok.inj h)
    have hn : TL.holds nctx v := fun a ha => hH a (List.mem_filter.mp ha).1
    have hsub : ∀ ct ∈ nctx, ∀ x ∈ ct.vars, x ∈ xs := fun ct hct => by
      have hf := (List.mem_filter.mp hct).2
      simp only [Bool.and_eq_true] at hf
      exact Gen.list_diff_isEmpty_iff.mp hf.1
    have hcov' : ∀ x ∈ conflict, x ∈ TL.vars nctx := Gen.list_diff_isEmpty_iff.mp (by simpa using hcov)
    -- on the term's coefficients, "in the variables of `nctx`" is the same as "in `xs`"
    have hsame : elimPart = t.coeffs.filter (fun p => decide (p.1 ∈ xs)) := by
      apply List.filter_congr
      intro a ha
      have hav : a.1 ∈ t.vars := List.mem_map_of_mem ha
      rw [decide_eq_decide]
      constructor
      · intro hmem
        obtain ⟨ct, hct, hv⟩ := TL.mem_vars.mp hmem
        exact hsub ct hct a.1 hv
      · exact fun hx => hcov' a.1 (Gen.mem_list_intersection.mpr ⟨hx, hav⟩)
    -- `Certified.opt`: the optimum `m` is an upper bound of the objective wherever `nctx` holds
    have hbound : tcOf refine * evalL (t.coeffs.filter fun p => decide (p.1 ∈ xs)) v ≤ m := by
      rw [← hsame, ← evalL_dir]
      exact (hO.opt _ _ _ _ hlp).2.2 v hn
    have hsplit : evalL t.coeffs v = evalL (t.coeffs.filter fun p => decide (p.1 ∈ xs)) v
        + evalL (t.coeffs.filter fun p => !decide (p.1 ∈ xs)) v := evalL_filter_split t.coeffs _ v
    show 0 ≤ tcOf refine * (evalL (t.coeffs.filter fun p => !decide (p.1 ∈ xs)) v - (t.const - repl)
      - (evalL t.coeffs v - t.const))
    rw [show repl = tcOf refine * m from ite_neg_eq_tcOf refine m]
    cases refine
    · rw [tcOf_false] at hbound ⊢
      linarith [hsplit]
    · rw [tcOf_true] at hbound ⊢
      linarith [hsplit]
  all_goals nofun

theorem tactic2_sound (O : Oracle) (hO : O.Certified) : TacSound (fun _ t H xs refine => tactic2 O t H xs refine) 2 :=
  fun _ _ _ _ _ h => (tactic2_gains hO h).sound

theorem refines_with_yes {O : Oracle} (hO : O.Certified) {H : TL} {a b : PTerm}
    (hg : Poly.refinesTL O (Gen.list_union H [a]) [b] = .ok .yes) (v : Val) (hH : TL.holds H v) (ha : a.holds v) : b.holds v :=
  Poly.refinesTL_yes O hO _ _ hg v (TL.holds_union.mpr ⟨hH, TL.holds_singleton.mpr ha⟩) b
    List.mem_cons_self

/-- Tactic 5 keeps a result only if the code's own refinement test confirms it in the context.  No `tactic5_gains`: the
    multipliers of its LP-active rows may have either sign, so only this guard makes it sound.  `grayKeeps = false`: a
    `gray` verdict proves no containment; with `true` the statement fails inside the tolerance band. -/
theorem tactic5_sound (O : Oracle) (hO : O.Certified) (t : PTerm) (H : TL) (xs : List Var) (refine : Bool) (active : Option (List Nat))
    (r : PTerm) (h : tactic5 O false t H xs refine active = .ok (some r)) :
    ∀ v, TL.holds H v → (if refine then (r.holds v → t.holds v) else (t.holds v → r.holds v)) := by
  intro v hH
  revert h
  fun_cases tactic5 O false t H xs refine active
  case case2 hg =>
    -- `reduceWith` produced a candidate and the verdict of `guard5` is `yes`
    rintro ⟨⟩
    unfold guard5 at hg
    cases refine
    · rw [if_neg Bool.false_ne_true] at hg ⊢
      exact refines_with_yes hO hg v hH
    · rw [if_pos rfl] at hg ⊢
      exact refines_with_yes hO hg v hH
  case case3 hkeep => cases hkeep   -- gray is kept only when `grayKeeps`
  case case8 hne => exact fun h => absurd h (hne r)
  all_goals nofun

theorem transformLoop_nil (tac : Nat → PTerm → TL → List Var → Bool → TacticRes) (ctx : TL) (refine : Bool) (ord : List Nat) :
    ∀ (todo done : TL), transformLoop tac ctx [] refine ord done todo = .ok (done ++ todo, []) := by
  intro todo
  induction todo with
  | nil => intro done; simp [transformLoop]
  | cons t rest ih =>
    intro done
    have : (Gen.list_intersection t.vars ([] : List Var)).isEmpty = true :=
      Gen.list_intersection_isEmpty_iff.mpr (fun x _ hx => by cases hx)
    simp only [transformLoop, this, Bool.not_true, Bool.false_eq_true, ↓reduceIte]
    rw [ih]
    simp

/-- with nothing to eliminate, relaxation is (two) simplification(s): an equivalence wherever the context holds -/
theorem elimRelax_nil_equiv (O : Oracle) (hO : O.Certified) (tie : PTerm → Bool) (tac : Nat → PTerm → TL → List Var → Bool → TacticRes)
    (l ctx : TL) (simp : Bool) (ord : List Nat) (r : TL) (used : List Int)
    (h : elimRelax O tie tac l ctx [] simp ord = .ok (r, used)) :
    ∀ v, TL.holds ctx v → (TL.holds r v ↔ TL.holds l v) := by
  obtain ⟨l', r', hpre, htr, rfl⟩ := elimRelax_ok h
  obtain ⟨that, hloop, heq⟩ := transform_ok hO htr
  rw [transformLoop_nil] at hloop
  cases hloop
  -- nothing mentions a variable of the empty list, so nothing is dropped
  have hmem : ∀ t, t ∈ Gen.list_diff r' (TL.withVars r' []) ↔ t ∈ r' := fun t => by simp [TL.mem_withVars]
  intro v hc
  -- `heq` speaks of `[] ++ l'`, the result of the loop started with nothing done
  rw [← presimp_equiv hO hpre v hc, ← List.nil_append l', ← heq v hc]
  unfold TL.holds
  simp only [hmem]

end Elim
