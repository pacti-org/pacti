import Pacti.Model.Poly
import Pacti.Proofs.Refine
/-! The loop of `reduce_polytope`, its early returns (`simplifyCore`) and `simplify`, under a certified oracle. -/

namespace Pacti.C07

-- declared here, where `simplify_eq` is stated with it; the C07 theorems name it `Pacti.C07.ctxOf`
def ctxOf : Option TL → TL
  | some g => g
  | none => []

end Pacti.C07

namespace Poly
open Pacti.C07 (ctxOf)

theorem holds_list_diff (l : TL) {g : TL} (v : Val) (hg : TL.holds g v) : TL.holds (Gen.list_diff l g) v ↔ TL.holds l v := by
  constructor
  · intro h t ht
    by_cases hm : t ∈ g
    · exact hg t hm
    · exact h t (Gen.mem_list_diff.mpr ⟨ht, hm⟩)
  · intro h t ht
    exact h t (Gen.mem_list_diff.mp ht).1

theorem holds_reduceLP (ctx kept rest : TL) (r : PTerm) (v : Val) :
    TL.holds (kept ++ [bump r] ++ rest ++ ctx) v ↔
      TL.holds (kept ++ rest ++ ctx) v ∧ evalL r.coeffs v ≤ r.const + 1 := by
  simp only [TL.holds_append, TL.holds_singleton, holds_bump]
  rw [and_right_comm (a := TL.holds kept v), and_right_comm (c := TL.holds ctx v)]

/-- When the matrix has a column, the helper flag says `ctx ≠ []`, so the loop always runs with the context itself. -/
theorem simplifyCore_cases (O : Oracle) (tie : PTerm → Bool) (rows ctx : TL) :
    (simplifyCore O tie rows ctx = .ok rows ∧
      (rows = [] ∨ ∃ t, rows = [t] ∧ (ctx = [] ∨ (Gen.list_union rows.vars ctx.vars).length = 0))) ∨
    (rows ≠ [] ∧ (Gen.list_union rows.vars ctx.vars).length = 0 ∧
      simplifyCore O tie rows ctx = .error .valueError) ∨
    (0 < (Gen.list_union rows.vars ctx.vars).length ∧ simplifyCore O tie rows ctx = reduce O tie ctx [] rows) := by
  fun_cases simplifyCore O tie rows ctx
  case case1 h0 => exact .inl ⟨rfl, .inl (List.length_eq_zero_iff.mp h0)⟩
  case case2 h1 =>
    -- one row and the helper flag off: `ctx.length * m = 0`
    obtain ⟨hr, hh⟩ := Bool.and_eq_true_iff.mp h1
    obtain ⟨t, ht⟩ := List.length_eq_one_iff.mp (of_decide_eq_true hr)
    have hcm := Nat.eq_zero_of_not_pos (of_decide_eq_false (Bool.not_eq_true' _ ▸ hh))
    exact .inl ⟨rfl, .inr ⟨t, ht, (Nat.mul_eq_zero.mp hcm).imp_left List.length_eq_zero_iff.mp⟩⟩
  case case3 h0 _ hm => exact .inr (.inl ⟨mt List.length_eq_zero_iff.mpr h0, hm, rfl⟩)
  case case4 hm =>
    refine .inr (.inr ⟨Nat.pos_of_ne_zero hm, ?_⟩)
    cases ctx with
    | nil => rw [ite_self]
    | cons c ctx =>
      rw [if_pos]
      exact decide_eq_true (Nat.mul_pos (Nat.succ_pos _) (Nat.pos_of_ne_zero hm))

theorem simplify_eq (O : Oracle) (tie : PTerm → Bool) (l : TL) (Γ : Option TL) :
    simplify O tie l Γ = simplifyCore O tie (Gen.list_diff l (ctxOf Γ)) (ctxOf Γ) := by
  cases Γ
  · rw [ctxOf, Gen.list_diff_nil]
    rfl
  · rfl

section
variable (O : Oracle) (hO : O.Certified) (tie : PTerm → Bool)
include hO

/-- the LP of one round of `reduce_polytope`'s loop, read off `lp_relaxed`: what its answer says about the row `r` on
    the other rows and the context; the `status == 3` branch is dead. -/
theorem reduce_lp (ctx kept rest : TL) (r : PTerm) :
    (∀ m x, O.lp r.coeffs (kept ++ [bump r] ++ rest ++ ctx) = .optimal m x →
      TL.holds kept (valOf x) ∧ TL.holds rest (valOf x) ∧ TL.holds ctx (valOf x) ∧ evalL r.coeffs (valOf x) = m ∧
        (m ≤ r.const → ∀ z, TL.holds kept z ∧ TL.holds rest z ∧ TL.holds ctx z → r.holds z)) ∧
    (O.lp r.coeffs (kept ++ [bump r] ++ rest ++ ctx) = .infeasible →
      ¬ ∃ z, TL.holds kept z ∧ TL.holds rest z ∧ TL.holds ctx z ∧ r.holds z) ∧
    O.lp r.coeffs (kept ++ [bump r] ++ rest ++ ctx) ≠ .unbounded := by
  have hlp := lp_relaxed O hO r (kept ++ rest ++ ctx) _ (holds_reduceLP ctx kept rest r)
  simp only [TL.holds_append, and_assoc] at hlp
  exact hlp

/-- last clause: a selected row is not implied *with a margin* by the other survivors and the context (at some point
    of the others it is tight or violated). -/
theorem reduce_ok (ctx rest kept out : TL) (h : reduce O tie ctx kept rest = .ok out) :
    ∃ s, out = kept ++ s ∧ s.Sublist rest ∧
      (∀ v, TL.holds ctx v → TL.holds kept v → (TL.holds s v ↔ TL.holds rest v)) ∧
      ∀ s1 t s2, s = s1 ++ t :: s2 →
        ∃ v, TL.holds ctx v ∧ TL.holds (kept ++ s1 ++ s2) v ∧ t.const ≤ evalL t.coeffs v := by
  fun_induction reduce O tie ctx kept rest
  case case1 =>
    cases h
    exact ⟨[], (List.append_nil _).symm, .refl _, fun _ _ _ => Iff.rfl, fun s1 t s2 hs => by simp at hs⟩
  case case2 kept r rest m x hl hdrop ih =>
    -- `r` dropped
    have himp := ((reduce_lp O hO ctx kept rest r).1 m x hl).2.2.2.2
    have hm : m ≤ r.const := hdrop.elim le_of_lt fun h => h.1.le
    obtain ⟨s, hout, hsub, hequiv, hirr⟩ := ih h
    refine ⟨s, hout, hsub.cons r, fun v hc hk => ?_, hirr⟩
    rw [hequiv v hc hk, TL.holds_cons]
    exact ⟨fun hr => ⟨himp hm v ⟨hk, hr, hc⟩, hr⟩, And.right⟩
  case case3 kept r rest m x hl hkeep ih =>
    -- `r` kept
    obtain ⟨hxk, hxrest, hxc, rfl, -⟩ := (reduce_lp O hO ctx kept rest r).1 m x hl
    obtain ⟨s, hout, hsub, hequiv, hirr⟩ := ih h
    refine ⟨r :: s, by rw [hout, List.append_assoc]; rfl, hsub.cons_cons r, fun v hc hk => ?_,
      fun s1 t s2 hs => ?_⟩
    · simp only [TL.holds_cons]
      refine and_congr_right fun hr => hequiv v hc ?_
      simp only [TL.holds_append, TL.holds_singleton]
      exact ⟨hk, hr⟩
    · cases s1 with
      | nil =>
        -- the row just kept: the LP's optimal point
        obtain ⟨rfl, rfl⟩ := List.cons.inj hs
        refine ⟨valOf x, hxc, ?_, not_lt.mp fun h => hkeep (Or.inl h)⟩
        rw [List.append_nil, TL.holds_append]
        exact ⟨hxk, fun t ht => hxrest t (hsub.subset ht)⟩
      | cons a s1' =>
        obtain ⟨rfl, hs'⟩ := List.cons.inj hs
        simpa only [List.append_assoc, List.cons_append, List.nil_append] using hirr s1' t s2 hs'
  case case4 kept r rest hl _ => exact ((reduce_lp O hO ctx kept rest r).2.2 hl).elim
  all_goals cases h

theorem reduce_error (ctx rest kept : TL) (e : Err) (h : reduce O tie ctx kept rest = .error e) :
    (e = .valueError ∧ ¬ ∃ v, TL.holds ctx v ∧ TL.holds (kept ++ rest) v) ∨ e = .oracleStuck := by
  fun_induction reduce O tie ctx kept rest
  case case1 => cases h
  case case2 kept r rest _ _ _ _ ih =>
    -- `r` dropped: a point of all rows is a point of the others
    have hsub : ∀ v, TL.holds (kept ++ r :: rest) v → TL.holds (kept ++ rest) v := fun v hv => by
      rw [TL.holds_append, TL.holds_cons] at hv
      exact TL.holds_append.mpr ⟨hv.1, hv.2.2⟩
    exact (ih h).imp_left (And.imp_right fun hn ⟨v, hc, hv⟩ => hn ⟨v, hc, hsub v hv⟩)
  -- `r` kept: the same rows
  case case3 kept r rest _ _ _ _ ih => exact List.append_cons kept r rest ▸ ih h
  case case4 kept r rest _ ih => exact List.append_cons kept r rest ▸ ih h
  case case5 kept r rest hl =>
    cases h
    refine Or.inl ⟨rfl, fun ⟨v, hc, hv⟩ => ?_⟩
    rw [TL.holds_append, TL.holds_cons] at hv
    exact (reduce_lp O hO ctx kept rest r).2.1 hl ⟨v, hv.1, hv.2.2, hc, hv.2.1⟩
  case case6 =>
    cases h
    exact Or.inr rfl

end

theorem reduce_equiv (O : Oracle) (hO : O.Certified) (tie : PTerm → Bool) (ctx : TL) :
    ∀ (rest kept out : TL), reduce O tie ctx kept rest = .ok out →
      ∀ v, TL.holds ctx v → (TL.holds out v ↔ TL.holds (kept ++ rest) v) := by
  intro rest kept out h v hc
  obtain ⟨s, rfl, _, h3, _⟩ := reduce_ok O hO tie ctx rest kept out h
  simp only [TL.holds_append]
  exact and_congr_right (h3 v hc)

section
variable (O : Oracle) (hO : O.Certified) (tie : PTerm → Bool)
include hO

/-- the antecedent `ctx = [] ∨ 0 < …`: the context really reaches the LP (there is none, or the matrix has a column) -/
theorem simplifyCore_ok (rows ctx r : TL)
    (h : simplifyCore O tie rows ctx = .ok r) :
    r.Sublist rows ∧ (∀ v, TL.holds ctx v → (TL.holds r v ↔ TL.holds rows v)) ∧
    (rows.Proper → ctx = [] ∨ 0 < (Gen.list_union rows.vars ctx.vars).length →
      ∀ r1 t r2, r = r1 ++ t :: r2 →
        ∃ v, TL.holds ctx v ∧ TL.holds (r1 ++ r2) v ∧ t.const ≤ evalL t.coeffs v) := by
  rcases simplifyCore_cases O tie rows ctx with ⟨e, hc⟩ | ⟨_, _, e⟩ | ⟨_, e⟩ <;> rw [e] at h
  · cases h
    refine ⟨.refl _, fun _ _ => Iff.rfl, fun hp hhelper r1 t r2 hr => ?_⟩
    -- returned without an LP: a single proper row and no context; a proper row is violated somewhere
    rcases hc with rfl | ⟨t', rfl, hc⟩
    · cases r1 <;> cases hr
    · have hctx : ctx = [] := by
        rcases hhelper with h | hpos
        · exact h
        · exact hc.resolve_right hpos.ne'
      obtain ⟨rfl, rfl, rfl⟩ : r1 = [] ∧ t' = t ∧ r2 = [] := by
        cases r1 with
        | nil => cases hr; exact ⟨rfl, rfl, rfl⟩
        | cons a r1 => cases r1 <;> cases hr
      obtain ⟨v, hv⟩ := (hp t' List.mem_cons_self).exists_violation
      exact ⟨v, hctx ▸ TL.holds_nil v, TL.holds_nil v, (not_le.mp hv).le⟩
  · cases h
  · obtain ⟨s, rfl, hsub, hequiv, hirr⟩ := reduce_ok O hO tie ctx rows [] r h
    exact ⟨hsub, fun v hc => hequiv v hc (TL.holds_nil v), fun _ _ => hirr⟩

end

/-- `ValueError` only when the rows are infeasible in the context (proper rows: for variable-free rows the solver
    rejects the zero-column matrix with a ValueError of its own).  In this file because `simplify_error` below rests on
    it. -/
theorem _root_.Pacti.C07.core_error (O : Oracle) (hO : O.Certified) (tie : PTerm → Bool) (rows ctx : TL) (hp : rows.Proper) (e : Err)
    (h : simplifyCore O tie rows ctx = .error e) :
    (e = .valueError ∧ ¬ ∃ v, TL.holds ctx v ∧ TL.holds rows v) ∨ e = .oracleStuck := by
  rcases simplifyCore_cases O tie rows ctx with ⟨e', _⟩ | ⟨hne, hm, _⟩ | ⟨_, e'⟩
  · rw [e'] at h
    cases h
  · exact absurd hm (hp.cols_ne_zero hne ctx)
  · rw [e'] at h
    exact reduce_error O hO tie ctx rows [] e h

section
variable (O : Oracle) (hO : O.Certified) (tie : PTerm → Bool)
include hO

theorem simplify_ok (l : TL) (Γ : Option TL) (r : TL)
    (h : simplify O tie l Γ = .ok r) :
    r.Sublist l ∧ (∀ v, TL.holds (ctxOf Γ) v → (TL.holds r v ↔ TL.holds l v)) ∧
    (l.Proper → ctxOf Γ = [] ∨ (ctxOf Γ).vars ≠ [] →
      ∀ r1 t r2, r = r1 ++ t :: r2 →
        ∃ v, TL.holds (ctxOf Γ) v ∧ TL.holds (r1 ++ r2) v ∧ t.const ≤ evalL t.coeffs v) := by
  rw [simplify_eq] at h
  obtain ⟨hsub, hequiv, hirr⟩ := simplifyCore_ok O hO tie _ _ r h
  refine ⟨hsub.trans List.filter_sublist, fun v hΓ => (hequiv v hΓ).trans (holds_list_diff l v hΓ),
    fun hp hvars => ?_⟩
  exact hirr (hp.list_diff _)
    (hvars.imp_right fun hv => Nat.pos_of_ne_zero fun e => hv (Gen.list_union_length_eq_zero _ _ e).2)

theorem simplify_error (l : TL) (hp : l.Proper) (Γ : Option TL)
    (e : Err) (h : simplify O tie l Γ = .error e) :
    (e = .valueError ∧ ¬ ∃ v, TL.holds (ctxOf Γ) v ∧ TL.holds l v) ∨ e = .oracleStuck := by
  rw [simplify_eq] at h
  refine (Pacti.C07.core_error O hO tie _ _ (hp.list_diff _) e h).imp_left
    (And.imp_right fun h2 ⟨v, hg, hl⟩ => h2 ⟨v, hg, (holds_list_diff l v hg).mpr hl⟩)

end

end Poly
