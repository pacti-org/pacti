import Pacti.Model.Compound
import Pacti.Proofs.Refine
/-! The loops of `NestedTermList` and `IoContractCompound.merge` (C17): what each loop computes from the answers of
    `is_empty` / `refines`, whatever the oracle; then what the emptiness tests mean for a certified oracle. -/

def TL.Disj (a b : TL) : Prop := ¬ ∃ v, TL.holds a v ∧ TL.holds b v

namespace Compound
open Poly

theorem containsB_cons (tl : TL) (rest : Nested) (b : List (Var × Rat)) :
    containsB (tl :: rest) b = match containsBehavior tl b with
      | .error e => .error e
      | .ok true => .ok true
      | .ok false => containsB rest b := by
  rw [containsB]
  cases containsBehavior tl b with
  | error e => cases e <;> rfl
  | ok c => cases c <;> rfl

theorem containsB_cov (n : Nested) (b : List (Var × Rat))
    (hcov : ∀ l ∈ n, ∀ x ∈ l.vars, x ∈ b.map (·.1)) :
    ∃ c, containsB n b = .ok c ∧ (c = true ↔ ∃ l ∈ n, TL.holds l (valOf b)) := by
  induction n with
  | nil => exact ⟨false, rfl, by simp⟩
  | cons tl rest ih =>
    obtain ⟨c, e, hc⟩ := containsBehavior_cov tl b (hcov tl (by simp))
    obtain ⟨c', e', hc'⟩ := ih fun l hl => hcov l (List.mem_cons_of_mem _ hl)
    rw [containsB_cons, e, List.exists_mem_cons_iff, ← hc, ← hc']
    cases c
    · exact ⟨c', e', by simp⟩
    · exact ⟨true, rfl, by simp⟩

theorem not_pairwise_disj_iff (l : List TL) :
    ¬ l.Pairwise TL.Disj ↔
      ∃ (i j : Nat) (hi : i < l.length) (hj : j < l.length), i < j ∧ ∃ v, TL.holds l[i] v ∧ TL.holds l[j] v := by
  simp only [List.pairwise_iff_getElem, TL.Disj, not_forall, not_not, exists_prop]

theorem mkNested_false (O : Oracle) (l : List TL) : mkNested O l false = .ok l := by
  simp [mkNested]

section
variable (O : Oracle)

theorem mkNested_ok (l : List TL) (f : Bool) (n : Nested) :
    mkNested O l f = .ok n ↔ n = l ∧ (f = true → checkDisjoint O l = .ok ()) := by
  fun_cases mkNested O l f <;> simp [*, eq_comm]

theorem mkNested_true_ok {l : List TL} {n : Nested} (h : mkNested O l true = .ok n) :
    n = l ∧ checkDisjoint O l = .ok () :=
  ((mkNested_ok O l true n).mp h).imp_right fun hd => hd rfl

theorem mkNested_true_error (l : List TL) (e : Err) :
    mkNested O l true = .error e ↔ checkDisjoint O l = .error e := by
  unfold mkNested
  simp only [if_true]
  split <;> simp [*]

/-- every call of `is_empty` returned an answer, and the row consists of the unions it answered `False` for -/
theorem intersectRow_ok {s : TL} {n₂ r : List TL} (h : intersectRow O s n₂ = .ok r) :
    (∀ o ∈ n₂, ∃ b, isEmpty O (tlUnion s o) = .ok b) ∧
    ∀ l, l ∈ r ↔ ∃ o ∈ n₂, l = tlUnion s o ∧ isEmpty O l = .ok false := by
  fun_induction intersectRow O s n₂ generalizing r
  case case1 =>
    cases h
    simp
  case case4 o rest em hem r' hr' ih =>
    obtain ⟨ih1, ih2⟩ := ih hr'
    cases h
    refine ⟨List.forall_mem_cons.mpr ⟨⟨em, hem⟩, ih1⟩, fun l => ?_⟩
    -- the head pair is listed exactly when `is_empty` answered `False` for it
    have hhead : (l = tlUnion s o ∧ isEmpty O l = .ok false) ↔ l = tlUnion s o ∧ em = false :=
      and_congr_right fun e => by rw [e, hem, Except.ok.injEq]
    rw [List.exists_mem_cons_iff, hhead, ← ih2]
    cases em <;> simp
  all_goals cases h

theorem intersectPairs_ok {n₁ n₂ r : List TL} (h : intersectPairs O n₁ n₂ = .ok r) :
    (∀ s ∈ n₁, ∀ o ∈ n₂, ∃ b, isEmpty O (tlUnion s o) = .ok b) ∧
    ∀ l, l ∈ r ↔ ∃ s ∈ n₁, ∃ o ∈ n₂, l = tlUnion s o ∧ isEmpty O l = .ok false := by
  fun_induction intersectPairs O n₁ n₂ generalizing r
  case case1 =>
    cases h
    simp
  case case4 s rest n₂ r₁ hr₁ r₂ hr₂ ih =>
    cases h
    obtain ⟨a1, a2⟩ := intersectRow_ok O hr₁
    obtain ⟨b1, b2⟩ := ih hr₂
    exact ⟨List.forall_mem_cons.mpr ⟨a1, b1⟩,
      fun l => by simp only [List.mem_append, a2, b2, List.mem_cons, exists_eq_or_imp]⟩
  all_goals cases h

theorem intersect_ok {n₁ n₂ : Nested} {f : Bool} {n : Nested} (h : intersect O n₁ n₂ f = .ok n) :
    intersectPairs O n₁ n₂ = .ok n ∧ mkNested O n f = .ok n := by
  unfold intersect at h
  split at h
  · cases h
  · rename_i l hl
    obtain rfl := ((mkNested_ok O l f n).mp h).1
    exact ⟨hl, h⟩

/-- `found` is certainly set only if some right alternative answered `yes`, certainly not only if all answered `no` -/
theorem findRef_ok {l : TL} {n₂ : List TL} {w : Verdict} (h : findRef O l n₂ = .ok w) :
    (w = .yes → ∃ r ∈ n₂, refinesTL O l r = .ok .yes) ∧ (w = .no → ∀ r ∈ n₂, refinesTL O l r = .ok .no) := by
  fun_induction findRef O l n₂ generalizing w
  case case1 => cases h; exact ⟨nofun, fun _ _ hr => nomatch hr⟩
  case case3 r _ hr => cases h; exact ⟨fun _ => ⟨r, List.mem_cons_self, hr⟩, nofun⟩
  case case4 hr ih =>
    obtain ⟨h1, h2⟩ := ih h
    exact ⟨fun e => List.exists_mem_cons_of_exists (h1 e), fun e => List.forall_mem_cons.mpr ⟨hr, h2 e⟩⟩
  -- `gray` for `r`: `yes` if the rest says `yes`, else `gray`
  case case6 hrest ih => cases h; exact ⟨fun _ => List.exists_mem_cons_of_exists ((ih hrest).1 rfl), nofun⟩
  case case7 => cases h; exact ⟨nofun, nofun⟩
  all_goals cases h

theorem le_ok {n₁ n₂ : Nested} {w : Verdict} (h : le O n₁ n₂ = .ok w) :
    (w = .yes → ∀ l ∈ n₁, ∃ r ∈ n₂, refinesTL O l r = .ok .yes) ∧
    (w = .no → ∃ l ∈ n₁, ∀ r ∈ n₂, refinesTL O l r = .ok .no) := by
  fun_induction le O n₁ n₂ generalizing w
  case case1 => cases h; exact ⟨fun _ _ hl => (nomatch hl), nofun⟩
  case case3 a _ _ hf => cases h; exact ⟨nofun, fun _ => ⟨a, List.mem_cons_self, (findRef_ok O hf).2 rfl⟩⟩
  case case4 hf ih =>
    obtain ⟨h1, h2⟩ := ih h
    exact ⟨fun e => List.forall_mem_cons.mpr ⟨(findRef_ok O hf).1 rfl, h1 e⟩,
      fun e => List.exists_mem_cons_of_exists (h2 e)⟩
  -- `gray` for `a`: `no` if the rest says `no`, else `gray`
  case case6 hrest ih => cases h; exact ⟨nofun, fun _ => List.exists_mem_cons_of_exists ((ih hrest).2 rfl)⟩
  case case7 => cases h; exact ⟨nofun, nofun⟩
  all_goals cases h

theorem mergeCompound_ok {c d r : CContract} (h : mergeCompound O c d = .ok r) :
    ∃ a g, intersect O c.a d.a true = .ok a ∧ intersect O c.g d.g false = .ok g ∧
      mkCompound O a g (Gen.list_union c.ins d.ins) (Gen.list_union c.outs d.outs) = .ok r := by
  revert h
  fun_cases mergeCompound O c d
  case case3 a ha g hg => exact fun h => ⟨a, g, ha, hg, h⟩
  all_goals nofun

theorem mkCompound_ok {a g : Nested} {ins outs : List Var} {r : CContract}
    (h : mkCompound O a g ins outs = .ok r) :
    r = ⟨a, g, ins, outs⟩ ∧ checkDisjoint O a = .ok () ∧ ins.Nodup ∧ outs.Nodup ∧ (∀ x ∈ ins, x ∉ outs) ∧
    (∀ x ∈ a.vars, x ∈ ins) ∧ (∀ x ∈ g.vars, x ∈ ins ∨ x ∈ outs) := by
  revert h
  fun_cases mkCompound O a g ins outs
  case case8 hins houts hio hav hgv a' ha g' hg =>
    rintro ⟨⟩
    obtain ⟨rfl, hd⟩ := mkNested_true_ok O ha
    obtain rfl := Except.ok.inj ((mkNested_false O g).symm.trans hg)
    simp only [Bool.not_eq_true', decide_eq_false_iff_not, not_not, Bool.not_eq_false] at hins houts hio hav hgv
    exact ⟨rfl, hd, hins, houts, Gen.list_intersection_isEmpty_iff.mp hio, Gen.list_diff_isEmpty_iff.mp hav,
      fun x hx => Gen.mem_list_union.mp (Gen.list_diff_isEmpty_iff.mp hgv x hx)⟩
  all_goals nofun

end

section
variable (O : Oracle) (hO : O.Certified)
include hO

/-- the answer `False` is right also for variable-free rows only because this source answers a matrix without columns
    by the signs of the constants (`hflag`) -/
theorem isEmpty_union_cases (a b : TL) :
    (isEmpty O (tlUnion a b) = .ok true ∧ TL.Disj a b) ∨
    (isEmpty O (tlUnion a b) = .ok false ∧ ∃ v, TL.holds a v ∧ TL.holds b v) ∨
    (isEmpty O (tlUnion a b) = .error .oracleStuck ∧ O.lp [] (tlUnion a b) = .stuck) := by
  have hex : (∃ v, TL.holds (tlUnion a b) v) ↔ ∃ v, TL.holds a v ∧ TL.holds b v :=
    exists_congr fun _ => TL.holds_union
  cases h : isEmpty O (tlUnion a b) with
  | error e =>
    obtain ⟨rfl, hs⟩ := polyEmpty_error O _ _ e h
    exact .inr (.inr ⟨rfl, hs⟩)
  | ok e =>
    have hflag : Gen.emptyNoColsBySign = true := rfl
    obtain ⟨htrue, hfalse⟩ := isEmpty_ok O hO.toPresolveAmbiguous _ e h
    cases e
    · exact .inr (.inl ⟨rfl, hex.mp (hfalse hflag rfl)⟩)
    · exact .inl ⟨rfl, fun hs => htrue rfl (hex.mpr hs)⟩

theorem checkRow_cases (a : TL) (rest : List TL) :
    (checkRow O a rest = .ok () ∧ ∀ b ∈ rest, TL.Disj a b) ∨
    (checkRow O a rest = .error .valueError ∧ ∃ b ∈ rest, ∃ v, TL.holds a v ∧ TL.holds b v) ∨
    (checkRow O a rest = .error .oracleStuck ∧ ∃ b ∈ rest, O.lp [] (tlUnion a b) = .stuck) := by
  induction rest with
  | nil => exact .inl ⟨rfl, nofun⟩
  | cons c rest ih =>
    rw [checkRow]
    rcases isEmpty_union_cases O hO a c with ⟨e, hd⟩ | ⟨e, hd⟩ | ⟨e, hs⟩ <;> rw [e]
    · rcases ih with ⟨e', h⟩ | ⟨e', b, hb, h⟩ | ⟨e', b, hb, h⟩
      · exact .inl ⟨e', List.forall_mem_cons.mpr ⟨hd, h⟩⟩
      · exact .inr (.inl ⟨e', b, List.mem_cons_of_mem _ hb, h⟩)
      · exact .inr (.inr ⟨e', b, List.mem_cons_of_mem _ hb, h⟩)
    · exact .inr (.inl ⟨rfl, c, List.mem_cons_self, hd⟩)
    · exact .inr (.inr ⟨rfl, c, List.mem_cons_self, hs⟩)

theorem checkDisjoint_cases (l : List TL) :
    (checkDisjoint O l = .ok () ∧ l.Pairwise TL.Disj) ∨
    (checkDisjoint O l = .error .valueError ∧ ¬ l.Pairwise TL.Disj) ∨
    (checkDisjoint O l = .error .oracleStuck ∧ ∃ a ∈ l, ∃ b ∈ l, O.lp [] (tlUnion a b) = .stuck) := by
  induction l with
  | nil => exact .inl ⟨rfl, .nil⟩
  | cons a rest ih =>
    rw [checkDisjoint, List.pairwise_cons]
    rcases checkRow_cases O hO a rest with ⟨e, hd⟩ | ⟨e, b, hb, hn⟩ | ⟨e, b, hb, hs⟩ <;> rw [e]
    · rcases ih with ⟨e', hp⟩ | ⟨e', hp⟩ | ⟨e', x, hx, y, hy, hs⟩
      · exact .inl ⟨e', hd, hp⟩
      · exact .inr (.inl ⟨e', fun h => hp h.2⟩)
      · exact .inr (.inr ⟨e', x, List.mem_cons_of_mem _ hx, y, List.mem_cons_of_mem _ hy, hs⟩)
    · exact .inr (.inl ⟨rfl, fun h => h.1 b hb hn⟩)
    · exact .inr (.inr ⟨rfl, a, List.mem_cons_self, b, List.mem_cons_of_mem _ hb, hs⟩)

theorem checkDisjoint_ok {l : List TL} (h : checkDisjoint O l = .ok ()) :
    l.Pairwise TL.Disj := by
  rcases checkDisjoint_cases O hO l with ⟨_, hp⟩ | ⟨e, _⟩ | ⟨e, _⟩
  · exact hp
  · rw [e] at h
    cases h
  · rw [e] at h
    cases h

theorem isEmpty_union_false_iff (a b : TL) (hans : ∃ e, isEmpty O (tlUnion a b) = .ok e) :
    isEmpty O (tlUnion a b) = .ok false ↔ ∃ v, TL.holds a v ∧ TL.holds b v := by
  rcases isEmpty_union_cases O hO a b with ⟨e, hd⟩ | ⟨e, hv⟩ | ⟨e, _⟩ <;> rw [e]
  · exact iff_of_false nofun hd
  · exact iff_of_true rfl hv
  · obtain ⟨_, he⟩ := hans
    rw [e] at he
    cases he

theorem intersect_mem {n₁ n₂ : Nested} {f : Bool} {n : Nested} (h : intersect O n₁ n₂ f = .ok n) (l : TL) :
    l ∈ n ↔ ∃ s ∈ n₁, ∃ o ∈ n₂, l = tlUnion s o ∧ ∃ v, TL.holds s v ∧ TL.holds o v := by
  obtain ⟨hans, hmem⟩ := intersectPairs_ok O (intersect_ok O h).1
  rw [hmem]
  constructor <;> rintro ⟨s, hs, o, ho, rfl, h⟩ <;> refine ⟨s, hs, o, ho, rfl, ?_⟩
  · exact (isEmpty_union_false_iff O hO s o (hans s hs o ho)).mp h
  · exact (isEmpty_union_false_iff O hO s o (hans s hs o ho)).mpr h

end

/-- completeness: every pair the code does not report empty is kept -/
theorem intersectPairs_keeps (O : Oracle) (n₁ n₂ r : List TL) (h : intersectPairs O n₁ n₂ = .ok r) :
    ∀ s ∈ n₁, ∀ o ∈ n₂, isEmpty O (tlUnion s o) = .ok false → tlUnion s o ∈ r :=
  fun s hs o ho he => ((intersectPairs_ok O h).2 _).mpr ⟨s, hs, o, ho, rfl, he⟩

end Compound
