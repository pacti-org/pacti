import Pacti.Model.PolyAlg
import Pacti.Proofs.Algebra
import Pacti.Proofs.Elim
/-! The polyhedral primitives meet the generic `Spec`. -/

namespace PolyAlg
open Alg

theorem H_eq (l : TL) (v : Val) : Alg.H PTerm.holds l v ↔ TL.holds l v := Iff.rfl

/-- the `okOrd` of `Spec` for the polyhedral primitives: every tactic the order uses is sound -/
def SoundOrd (tac : Nat → PTerm → TL → List Var → Bool → Elim.TacticRes) (o : List Nat) : Prop := ∀ j ∈ o, Elim.TacSound tac j

/-- `hgray`: inside the tolerance band the code's `refines` may answer either way, and `True` there is no proof of
    containment; the theorems about the algebra are for the reading `gray ↦ False`. -/
theorem polyPrims_spec (O : Oracle) (hO : O.Certified) (tie : PTerm → Bool) (grayAs : Bool)
    (tac : Nat → PTerm → TL → List Var → Bool → Elim.TacticRes) (hgray : grayAs = false) :
    Spec PTerm.holds (polyPrims O tie grayAs tac) (SoundOrd tac) where
  refine_ok := by
    intro s l Γ xs b o _ ho h v hΓ hr
    obtain ⟨⟨r, st⟩, hp, rfl⟩ := Except.map_eq_ok.mp h
    exact Elim.elimRefine_sound O hO tie tac l Γ xs b o ho r st hp v hΓ hr
  relax_ok := by
    intro s l Γ xs b o _ ho h v hΓ hl
    obtain ⟨⟨r, st⟩, hp, rfl⟩ := Except.map_eq_ok.mp h
    exact Elim.elimRelax_sound O hO tie tac l Γ xs b o ho r st hp v hΓ hl
  simp_ok := by
    intro s l Γ r h v hΓ
    cases Γ with
    | none => exact (Poly.simplify_ok O hO tie l none r h).2.1 v (TL.holds_nil v)
    | some g => exact (Poly.simplify_ok O hO tie l (some g) r h).2.1 v (hΓ g rfl)
  refines_ok := by
    intro s l r h v hl
    simp only [polyPrims] at h
    split at h
    · rename_i hy
      exact Poly.refinesTL_yes O hO l r hy v hl
    · cases h
    · subst hgray
      cases h
    · cases h

theorem polyPrims_selects (O : Oracle) (hO : O.Certified) (tie : PTerm → Bool) (grayAs : Bool)
    (tac : Nat → PTerm → TL → List Var → Bool → Elim.TacticRes) :
    ∀ s l Γ r, (polyPrims O tie grayAs tac).simplify s l Γ = .ok r → ∀ t ∈ r, t ∈ l := by
  intro s l Γ r h t ht
  exact (Poly.simplify_ok O hO tie l Γ r h).1.subset ht

end PolyAlg
