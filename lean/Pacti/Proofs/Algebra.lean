import Pacti.Model.Algebra
import Pacti.Proofs.Iface
import Pacti.Proofs.Except
/-! Generic soundness of the contract algebra for ANY primitives meeting `Spec`.  Each operation is unfolded once, in its
    inversion lemma (`…_ok`) and in the lemma on its error kinds (`…_error_kinds`); the theorems are read off those. -/

namespace Alg
variable {T : Type}

/-- conjunction of a term list -/
def H (holds : T → Val → Prop) (l : List T) (v : Val) : Prop := ∀ t ∈ l, holds t v

/-- the documented contracts of the four primitives — nothing else is assumed of them.  `okOrd` restricts the tactic
    orders for which the two elimination primitives are claimed sound (by default all). -/
structure Spec (holds : T → Val → Prop) (P : Prims T) (okOrd : List Nat → Prop := fun _ => True) : Prop where
  refine_ok : ∀ s l Γ xs b o r, okOrd o → P.elimRefine s l Γ xs b o = .ok r → ∀ v, H holds Γ v → H holds r v → H holds l v
  relax_ok  : ∀ s l Γ xs b o r, okOrd o → P.elimRelax s l Γ xs b o = .ok r → ∀ v, H holds Γ v → H holds l v → H holds r v
  simp_ok   : ∀ s l Γ r, P.simplify s l Γ = .ok r → ∀ v, (∀ g, Γ = some g → H holds g v) → (H holds r v ↔ H holds l v)
  refines_ok : ∀ s l r, P.refines s l r = .ok true → ∀ v, H holds l v → H holds r v

/-- primitives fail only with `ValueError` (or the model-only `oracleStuck`) -/
structure ErrSpec (P : Prims T) : Prop where
  refine_err : ∀ s l Γ xs b o e, P.elimRefine s l Γ xs b o = .error e → e = .valueError ∨ e = .oracleStuck
  relax_err  : ∀ s l Γ xs b o e, P.elimRelax s l Γ xs b o = .error e → e = .valueError ∨ e = .oracleStuck
  simp_err   : ∀ s l Γ e, P.simplify s l Γ = .error e → e = .valueError ∨ e = .oracleStuck
  refines_err : ∀ s l r e, P.refines s l r = .error e → e = .valueError ∨ e = .oracleStuck

section inversion
variable {vars : T → List Var} {P : Prims T}

theorem mkContract_ok {a g : List T} {ins outs : List Var} {s : Bool} {c : Contract T}
    (h : mkContract vars P a g ins outs s = .ok c) :
    (Gen.init_rejects (varsOf vars a) (varsOf vars g) ins outs).any id = false ∧ c.a = a ∧ c.ins = ins ∧ c.outs = outs ∧
    if s = true then P.simplify .ctor g (some a) = .ok c.g else c.g = g := by
  revert h
  fun_cases mkContract vars P a g ins outs s <;> rintro ⟨⟩
  · rename_i hr hs _ hg
    exact ⟨Bool.not_eq_true _ ▸ hr, rfl, rfl, rfl, (if_pos hs).mpr hg⟩
  · rename_i hr hs
    exact ⟨Bool.not_eq_true _ ▸ hr, rfl, rfl, rfl, (if_neg hs).mpr rfl⟩

theorem mkContract_error {a g : List T} {ins outs : List Var} {s : Bool} {e : Err}
    (h : mkContract vars P a g ins outs s = .error e) :
    e = .incompatibleArgs ∨ s = true ∧ P.simplify .ctor g (some a) = .error e := by
  revert h
  fun_cases mkContract vars P a g ins outs s <;> rintro ⟨⟩
  · exact .inl rfl
  · exact .inr ⟨‹_›, ‹_›⟩

section rename
variable {ren : T → Var → Var → T} {c c' : Contract T} {s t : Var}

theorem rename_eq_mkContract (hs : s = t ∨ s ∉ c.ins ∧ s ∉ c.outs) :
    rename vars P ren c s t = mkContract vars P c.a c.g c.ins c.outs := by
  unfold rename
  rcases hs with rfl | ⟨h1, h2⟩
  · rw [if_pos rfl]
  · rw [if_neg h1, if_neg h2, ite_self]

/-- the renamed interface list, as `rename_variable` builds it for inputs and for outputs alike -/
abbrev renamed (xs : List Var) (s t : Var) : List Var := if t ∉ xs then replaceFirst xs s t else xs.erase s

theorem mem_replaceFirst {xs : List Var} {s t x : Var} (hn : xs.Nodup) (hs : s ∈ xs) :
    x ∈ replaceFirst xs s t ↔ (x ∈ xs ∧ x ≠ s) ∨ x = t := by
  induction xs with
  | nil => cases hs
  | cons y r ih =>
    obtain ⟨hy, hr⟩ := List.nodup_cons.mp hn
    unfold replaceFirst
    split
    · -- the head is `s` and is replaced; by `Nodup` the tail, which is kept, does not contain `s`
      subst y
      simp only [List.mem_cons]
      constructor
      · rintro (h | h)
        · exact .inr h
        · exact .inl ⟨.inr h, fun e => hy (e ▸ h)⟩
      · rintro (⟨h | h, hne⟩ | h)
        · exact absurd h hne
        · exact .inr h
        · exact .inl h
    · -- the head stays and `s` is in the tail: the induction hypothesis
      rename_i hys
      rw [List.mem_cons, ih hr ((List.mem_cons.mp hs).resolve_left (Ne.symm hys)), List.mem_cons]
      constructor
      · rintro (h | ⟨h, hne⟩ | h)
        · exact .inl ⟨.inl h, h ▸ hys⟩
        · exact .inl ⟨.inr h, hne⟩
        · exact .inr h
      · rintro (⟨h | h, hne⟩ | h)
        · exact .inl h
        · exact .inr (.inl ⟨h, hne⟩)
        · exact .inr (.inr h)

theorem mem_renamed {xs : List Var} {s t x : Var} (hne : s ≠ t) (hn : xs.Nodup) (hs : s ∈ xs) :
    x ∈ renamed xs s t ↔ (x ∈ xs ∧ x ≠ s) ∨ x = t := by
  unfold renamed
  split
  · exact mem_replaceFirst hn hs
  · rename_i ht
    rw [List.Nodup.mem_erase_iff hn, and_comm]
    refine ⟨Or.inl, fun h => h.elim id ?_⟩
    rintro rfl
    exact ⟨not_not.mp ht, hne.symm⟩

theorem rename_ok_in (hne : s ≠ t) (hs : s ∈ c.ins) (h : rename vars P ren c s t = .ok c') :
    mkContract vars P (c.a.map (ren · s t)) (c.g.map (ren · s t)) (renamed c.ins s t) c.outs = .ok c' := by
  unfold rename at h
  rw [if_neg hne, if_pos hs] at h
  exact (guard_ok.mp h).2

theorem rename_ok_out (hne : s ≠ t) (hi : s ∉ c.ins) (hs : s ∈ c.outs) (h : rename vars P ren c s t = .ok c') :
    mkContract vars P (c.a.map (ren · s t)) (c.g.map (ren · s t)) c.ins (renamed c.outs s t) = .ok c' := by
  unfold rename at h
  rw [if_neg hne, if_neg hi, if_pos hs] at h
  exact (guard_ok.mp h).2

theorem rename_ok_of_mem (hne : s ≠ t) (hs : s ∈ c.ins ∨ s ∈ c.outs) (h : rename vars P ren c s t = .ok c') :
    ∃ ins outs, mkContract vars P (c.a.map (ren · s t)) (c.g.map (ren · s t)) ins outs = .ok c' :=
  if hi : s ∈ c.ins then ⟨_, _, rename_ok_in hne hi h⟩
  else ⟨_, _, rename_ok_out hne hi (hs.resolve_left hi) h⟩

end rename

variable [DecidableEq T]

abbrev composeIface (vars : T → List Var) (c1 c2 : Contract T) (keep : List Var) : Gen.ComposeIface Var :=
  Gen.compose_iface c1.ins c1.outs c2.ins c2.outs (varsOf vars c1.a) (varsOf vars c2.a) keep

/-- the calls of a successful composition, in order (both reject flags are false too; no theorem needs that);
    the simplified assumptions are `c.a` itself -/
theorem compose_ok {c1 c2 c : Contract T} {keep : List Var} {simp : Bool} {ord : List Nat}
    (h : compose vars P c1 c2 keep simp ord = .ok c) :
    let I := composeIface vars c1 c2 keep
    ∃ asm0 g1 g2 all,
      composeAssumptions vars P c1 c2 I ord = .ok asm0 ∧
      (if simp = true then P.simplify .simpA asm0 none else .ok asm0) = .ok c.a ∧
      P.elimRelax .relG1 c1.g c2.g I.intvars simp ord = .ok g1 ∧
      P.elimRelax .relG2 c2.g c1.g I.intvars simp ord = .ok g2 ∧
      P.elimRelax .relAll (Gen.list_union g1 g2) c.a I.intvars simp ord = .ok all ∧
      mkContract vars P c.a
        (Gen.list_union (Gen.list_diff all (withVars vars all I.intvars))
          (Gen.list_diff (Gen.list_union c1.g c2.g) (withVars vars (Gen.list_union c1.g c2.g) I.intvars)))
        I.inputvars I.outputvars = .ok c := by
  revert h
  fun_cases compose vars P c1 c2 keep simp ord
  case case8 I _ _ asm0 h0 asm1 h1 g1 hg1 g2 hg2 all hall og =>
    intro h
    obtain rfl := (mkContract_ok h).2.1
    exact ⟨asm0, g1, g2, all, h0, h1, hg1, hg2, hall, h⟩
  all_goals nofun

/-- the last of these calls alone: the result comes from the constructor, on the generated interface -/
theorem compose_ok_mk {c1 c2 c : Contract T} {keep : List Var} {simp : Bool} {ord : List Nat}
    (h : compose vars P c1 c2 keep simp ord = .ok c) :
    ∃ g, mkContract vars P c.a g (composeIface vars c1 c2 keep).inputvars (composeIface vars c1 c2 keep).outputvars = .ok c :=
  let ⟨_, _, _, _, _, _, _, _, _, hmk⟩ := compose_ok h
  ⟨_, hmk⟩

/-- the calls of a successful quotient, in order; the computed assumptions are `q.a` itself -/
theorem quotient_ok {c c1 q : Contract T} {addl : List Var} {simp : Bool} {ord : List Nat}
    (h : quotient vars P c c1 addl simp ord = .ok q) :
    let I := Gen.quotient_iface c.ins c.outs c1.ins c1.outs addl
    ∃ rf g0 g2,
      P.refines .qRef c.a c1.a = .ok rf ∧
      P.elimRelax .qRelA (if rf = true then Gen.list_union c.a c1.g else c.a) []
        (Gen.list_union I.intvars I.outputvars) simp ord = .ok q.a ∧
      orElse (P.elimRefine .qRefG1 c.g (Gen.list_union c1.g c1.a) I.intvars simp ord) c.g = .ok g0 ∧
      orElse (P.elimRefine .qRefG2 (Gen.list_union g0 c1.a) c.a I.intvars simp ord) (Gen.list_union g0 c1.a) = .ok g2 ∧
      mkContract vars P q.a g2 I.inputvars I.outputvars = .ok q := by
  revert h
  fun_cases quotient vars P c c1 addl simp ord
  case case8 I _ _ rf hrf a0 asm hasm g0 hg0 g1 g2 hg2 _ =>
    intro h
    obtain rfl := (mkContract_ok h).2.1
    exact ⟨rf, g0, g2, hrf, hasm, hg0, hg2, h⟩
  all_goals nofun

end inversion

section termwise
variable {holds : T → Val → Prop} {okOrd : List Nat → Prop} {vars : T → List Var} {P : Prims T} {a l : List T} {v : Val}

theorem H_nil : H holds ([] : List T) v := nofun

theorem H_map {f : T → T} {σ : Val → Val} (hf : ∀ t v, holds (f t) v ↔ holds t (σ v)) :
    H holds (l.map f) v ↔ H holds l (σ v) :=
  List.forall_mem_map.trans (forall₂_congr fun t _ => hf t v)

theorem mem_varsOf (vars : T → List Var) (l : List T) (x : Var) : x ∈ varsOf vars l ↔ ∃ t ∈ l, x ∈ vars t := by
  simp [varsOf, Gen.mem_foldl_union]

theorem mem_withVars {xs : List Var} {t : T} : t ∈ withVars vars l xs ↔ t ∈ l ∧ ∃ x ∈ vars t, x ∈ xs :=
  Gen.mem_filter_meets

theorem withVars_nil : withVars vars l [] = [] :=
  List.eq_nil_iff_forall_not_mem.mpr fun t ht => by simp [mem_withVars] at ht

variable (hP : Spec holds P okOrd)
include hP

theorem optSimplify_equiv {b : Bool} {s : Site} {r : List T} {Γ : Option (List T)}
    (h : (if b = true then P.simplify s l Γ else .ok l) = .ok r) (hΓ : ∀ g, Γ = some g → H holds g v) :
    H holds r v ↔ H holds l v := by
  split at h
  · exact hP.simp_ok _ _ _ _ h v hΓ
  · cases h
    rfl

theorem mkContract_sem {g : List T} {ins outs : List Var} {s : Bool} {c : Contract T}
    (h : mkContract vars P a g ins outs s = .ok c) :
    c.a = a ∧ c.ins = ins ∧ c.outs = outs ∧ ∀ v, H holds a v → (H holds c.g v ↔ H holds g v) := by
  obtain ⟨-, ha, hi, ho, hg⟩ := mkContract_ok h
  refine ⟨ha, hi, ho, fun v hv => ?_⟩
  split at hg
  · exact hP.simp_ok _ _ _ _ hg v (fun g0 hg0 => by cases hg0; exact hv)
  · rw [hg]

section rename
variable {ren : T → Var → Var → T} {c c' : Contract T} {s t : Var}

theorem rename_noop_sem (hs : s = t ∨ s ∉ c.ins ∧ s ∉ c.outs) (h : rename vars P ren c s t = .ok c') :
    c'.ins = c.ins ∧ c'.outs = c.outs ∧ c'.a = c.a ∧ ∀ v, H holds c.a v → (H holds c'.g v ↔ H holds c.g v) := by
  rw [rename_eq_mkContract hs] at h
  obtain ⟨ha, hi, ho, hg⟩ := mkContract_sem hP h
  exact ⟨hi, ho, ha, hg⟩

/-- renaming an interface variable is substitution, whenever the renaming of terms is: `σ v` reads the new name
    where `v` read the old one -/
theorem rename_sem {σ : Val → Val} (hren : ∀ u v, holds (ren u s t) v ↔ holds u (σ v)) (hne : s ≠ t)
    (hs : s ∈ c.ins ∨ s ∈ c.outs) (h : rename vars P ren c s t = .ok c') :
    (H holds c'.a v ↔ H holds c.a (σ v)) ∧ (H holds c'.a v → (H holds c'.g v ↔ H holds c.g (σ v))) := by
  obtain ⟨ins, outs, hm⟩ := rename_ok_of_mem hne hs h
  obtain ⟨ha, -, -, hg⟩ := mkContract_sem hP hm
  rw [ha]
  exact ⟨H_map hren, fun hav => (hg v hav).trans (H_map hren)⟩

end rename

theorem orElse_refine {s : Site} {Γ r : List T} {xs : List Var} {b : Bool} {o : List Nat} (ho : okOrd o)
    (he : orElse (P.elimRefine s l Γ xs b o) l = .ok r) (hΓ : H holds Γ v) (h : H holds r v) : H holds l v := by
  generalize hr : P.elimRefine s l Γ xs b o = res at he
  revert he
  fun_cases orElse res l <;> rintro ⟨⟩
  · exact hP.refine_ok _ _ _ _ _ _ _ ho hr v hΓ h
  · exact h
  · exact h

end termwise

variable [DecidableEq T] (holds : T → Val → Prop) {okOrd : List Nat → Prop}

section listwise
variable {holds} {vars : T → List Var} {P : Prims T} {a b l : List T} {v : Val}

theorem H_union : H holds (Gen.list_union a b) v ↔ H holds a v ∧ H holds b v :=
  Gen.forall_mem_list_union

theorem H_diff (h : H holds a v) : H holds (Gen.list_diff a b) v :=
  fun t ht => h t (Gen.mem_list_diff.mp ht).1

variable (hP : Spec holds P okOrd)
include hP

/-- both operands' assumptions follow from the computed assumptions once each operand honours its contract -/
theorem composeAssumptions_sound {c1 c2 : Contract T} {I : Gen.ComposeIface Var} {ord : List Nat} {asm0 : List T}
    (ho : okOrd ord) (h : composeAssumptions vars P c1 c2 I ord = .ok asm0) (hasm : H holds asm0 v)
    (h1 : H holds c1.a v → H holds c1.g v) (h2 : H holds c2.a v → H holds c2.g v) :
    H holds c1.a v ∧ H holds c2.a v := by
  -- the operand `ch` helps: its assumptions are part of `asm0`, and with its guarantees they give back those of `co`
  have helps : ∀ {ch co : Contract T} {na : List T},
      P.elimRefine .refA co.a (Gen.list_union ch.a ch.g) I.assumptions_forbidden_vars true ord = .ok na →
      H holds (Gen.list_union na ch.a) v → (H holds ch.a v → H holds ch.g v) → H holds ch.a v ∧ H holds co.a v :=
    fun hna hu hc =>
      have ⟨hna', ha⟩ := H_union.mp hu
      ⟨ha, hP.refine_ok _ _ _ _ _ _ _ ho hna v (H_union.mpr ⟨ha, hc ha⟩) hna'⟩
  revert h
  fun_cases composeAssumptions vars P c1 c2 I ord <;> rintro ⟨⟩
  · exact helps ‹_› hasm h1
  · exact (helps ‹_› hasm h2).symm
  · exact H_union.mp hasm

end listwise

theorem compose_sound (vars : T → List Var) (P : Prims T) (hP : Spec holds P okOrd) (c1 c2 c : Contract T) (keep : List Var) (simp : Bool)
    (ord : List Nat) (ho : okOrd ord) (h : compose vars P c1 c2 keep simp ord = .ok c) :
    ∀ v, H holds c.a v → (H holds c1.a v → H holds c1.g v) → (H holds c2.a v → H holds c2.g v) →
      H holds c1.a v ∧ H holds c2.a v ∧ H holds c.g v := by
  intro v hca h1 h2
  obtain ⟨asm0, g1, g2, all, hasm, hsimp, hg1, hg2, hall, hmk⟩ := compose_ok h
  have hasm0 := (optSimplify_equiv hP hsimp nofun).mp hca
  obtain ⟨A1, A2⟩ := composeAssumptions_sound hP ho hasm hasm0 h1 h2
  have G1 := h1 A1
  have G2 := h2 A2
  have hg1v := hP.relax_ok _ _ _ _ _ _ _ ho hg1 v G2 G1
  have hg2v := hP.relax_ok _ _ _ _ _ _ _ ho hg2 v G1 G2
  have hallv := hP.relax_ok _ _ _ _ _ _ _ ho hall v hca (H_union.mpr ⟨hg1v, hg2v⟩)
  obtain ⟨-, -, -, hcg⟩ := mkContract_sem hP hmk
  exact ⟨A1, A2, (hcg v hca).mpr (H_union.mpr ⟨H_diff hallv, H_diff (H_union.mpr ⟨G1, G2⟩)⟩)⟩

theorem quotient_sound (vars : T → List Var) (P : Prims T) (hP : Spec holds P okOrd) (c c1 q : Contract T) (addl : List Var) (simp : Bool)
    (ord : List Nat) (ho : okOrd ord) (h : quotient vars P c c1 addl simp ord = .ok q) :
    ∀ v, H holds c.a v → (H holds c1.a v → H holds c1.g v) → (H holds q.a v → H holds q.g v) →
      H holds c1.a v ∧ H holds q.a v ∧ H holds c.g v := by
  intro v hca h1 hq
  obtain ⟨rf, g0, g2, hrf, hasm, hg0e, hg2e, hmk⟩ := quotient_ok h
  have hqav : H holds q.a v := by
    apply hP.relax_ok _ _ _ _ _ _ _ ho hasm v H_nil
    split
    · rename_i hr
      subst hr
      exact H_union.mpr ⟨hca, h1 (hP.refines_ok _ _ _ hrf v hca)⟩
    · exact hca
  obtain ⟨-, -, -, hqg⟩ := mkContract_sem hP hmk
  have hg2 := (hqg v hqav).mp (hq hqav)
  obtain ⟨hg0, ha1⟩ := H_union.mp (orElse_refine hP ho hg2e hca hg2)
  exact ⟨ha1, hqav, orElse_refine hP ho hg0e (H_union.mpr ⟨h1 ha1, ha1⟩) hg0⟩

theorem merge_exact (vars : T → List Var) (P : Prims T) (hP : Spec holds P okOrd) (c1 c2 m : Contract T)
    (h : merge vars P c1 c2 = .ok m) :
    (∀ v, H holds m.a v ↔ H holds c1.a v ∧ H holds c2.a v) ∧
    (∀ v, H holds m.a v → (H holds m.g v ↔ H holds c1.g v ∧ H holds c2.g v)) := by
  obtain ⟨hma, -, -, hmg⟩ := mkContract_sem hP h
  rw [hma]
  exact ⟨fun v => H_union, fun v hv => (hmg v hv).trans H_union⟩

variable {holds} in
theorem merge_comm {vars : T → List Var} {P : Prims T} (hP : Spec holds P okOrd) {c1 c2 m m' : Contract T}
    (h : merge vars P c1 c2 = .ok m) (h' : merge vars P c2 c1 = .ok m') :
    (∀ v, H holds m.a v ↔ H holds m'.a v) ∧ (∀ v, H holds m.a v → (H holds m.g v ↔ H holds m'.g v)) ∧
    (∀ x, x ∈ m.ins ↔ x ∈ m'.ins) ∧ (∀ x, x ∈ m.outs ↔ x ∈ m'.outs) := by
  obtain ⟨ha, hg⟩ := merge_exact holds vars P hP c1 c2 m h
  obtain ⟨ha', hg'⟩ := merge_exact holds vars P hP c2 c1 m' h'
  have haa : ∀ v, H holds m.a v ↔ H holds m'.a v := fun v => (ha v).trans (and_comm.trans (ha' v).symm)
  obtain ⟨-, -, hi, ho, -⟩ := mkContract_ok h
  obtain ⟨-, -, hi', ho', -⟩ := mkContract_ok h'
  refine ⟨haa, fun v hv => ?_, fun x => ?_, fun x => ?_⟩
  · exact (hg v hv).trans (and_comm.trans (hg' v ((haa v).mp hv)).symm)
  · rw [hi, hi']
    simp only [Gen.merge_iface, Gen.mem_list_union, or_comm]
  · rw [ho, ho']
    simp only [Gen.merge_iface, Gen.mem_list_union, or_comm]

section keeps
variable {holds} {vars : T → List Var} {P : Prims T} {c1 c2 c : Contract T} {keep : List Var} {simp : Bool}
  {ord : List Nat} {t : T}

/-- every operand guarantee without internal variables is enforced by the composition -/
theorem compose_keeps (hP : Spec holds P okOrd) (h : compose vars P c1 c2 keep simp ord = .ok c)
    (ht : t ∈ c1.g ∨ t ∈ c2.g) (hfree : ∀ x ∈ vars t, x ∉ (composeIface vars c1 c2 keep).intvars) :
    ∀ v, H holds c.a v → H holds c.g v → holds t v := by
  intro v hca hcg
  obtain ⟨_, _, _, _, -, -, -, -, -, hmk⟩ := compose_ok h
  obtain ⟨-, -, -, hg⟩ := mkContract_sem hP hmk
  refine (H_union.mp ((hg v hca).mp hcg)).2 t ?_
  rw [Gen.mem_list_diff, Gen.mem_list_union, mem_withVars]
  exact ⟨ht, fun ⟨_, x, hx, hxs⟩ => hfree x hx hxs⟩

theorem compose_keeps_iface (hP : Spec holds P okOrd) (h : compose vars P c1 c2 keep simp ord = .ok c)
    (ht : t ∈ c1.g ∨ t ∈ c2.g) (hif : ∀ x ∈ vars t, x ∈ c.ins ∨ x ∈ c.outs) :
    ∀ v, H holds c.a v → H holds c.g v → holds t v := by
  obtain ⟨_, hmk⟩ := compose_ok_mk h
  obtain ⟨-, -, hi, ho, -⟩ := mkContract_ok hmk
  refine compose_keeps hP h ht fun x hx hint => ?_
  have := Gen.compose_intvars_not_iface hint
  rw [← hi, ← ho] at this
  exact (hif x hx).elim this.1 this.2

end keeps

/-- relaxation with nothing to eliminate is an equivalence in its context (true of the polyhedral primitives) -/
def RelaxNilEquiv (P : Prims T) : Prop :=
  ∀ s l Γ b o r, P.elimRelax s l Γ [] b o = .ok r → ∀ v, H holds Γ v → (H holds r v ↔ H holds l v)

/-- no connection between the operands: the composition is exact -/
theorem compose_exact_unconnected (vars : T → List Var) (P : Prims T) (hP : Spec holds P okOrd) (hR : RelaxNilEquiv holds P)
    (c1 c2 c : Contract T) (keep : List Var) (simp : Bool) (ord : List Nat)
    (hn1 : ∀ x, ¬ (x ∈ c1.outs ∧ x ∈ c2.ins)) (hn2 : ∀ x, ¬ (x ∈ c1.ins ∧ x ∈ c2.outs))
    (h : compose vars P c1 c2 keep simp ord = .ok c) :
    (∀ v, H holds c.a v ↔ H holds c1.a v ∧ H holds c2.a v) ∧
    (∀ v, H holds c.a v → (H holds c.g v ↔ H holds c1.g v ∧ H holds c2.g v)) := by
  obtain ⟨asm0, g1, g2, all, hasm, hsimp, hg1, hg2, hall, hmk⟩ := compose_ok h
  obtain ⟨hint, hb1, hb2, hb3⟩ := Gen.compose_iface_unconnected (varsOf vars c1.a) (varsOf vars c2.a) keep hn1 hn2
  rw [hint] at hg1 hg2 hall hmk
  simp only [withVars_nil, Gen.list_diff_nil] at hmk
  simp only [composeAssumptions, hb1, hb2, hb3, Bool.false_eq_true, ↓reduceIte, Except.ok.injEq] at hasm
  subst hasm
  have hca : ∀ v, H holds c.a v ↔ H holds c1.a v ∧ H holds c2.a v := fun v =>
    (optSimplify_equiv hP hsimp nofun).trans H_union
  refine ⟨hca, fun v hv => ?_⟩
  obtain ⟨-, -, -, hcg⟩ := mkContract_sem hP hmk
  rw [hcg v hv, H_union, H_union]
  refine ⟨fun h => h.2, fun ⟨G1, G2⟩ => ⟨?_, G1, G2⟩⟩
  exact (hR _ _ _ _ _ _ hall v hv).mpr (H_union.mpr ⟨(hR _ _ _ _ _ _ hg1 v G2).mpr G1, (hR _ _ _ _ _ _ hg2 v G1).mpr G2⟩)

theorem refinesC_sound (P : Prims T) (hP : Spec holds P okOrd) (c d : Contract T) (h : refinesC P c d = .ok true) :
    (∀ v, H holds d.a v → H holds c.a v) ∧ (∀ v, H holds d.a v → H holds c.g v → H holds d.g v) := by
  revert h
  fun_cases refinesC P c d
  case case4 b1 h1 b2 h2 =>
    intro h
    obtain ⟨rfl, rfl⟩ := Bool.and_eq_true_iff.mp (Except.ok.inj h)
    exact ⟨hP.refines_ok _ _ _ h1, fun v ha hg => (H_union.mp (hP.refines_ok _ _ _ h2 v (H_union.mpr ⟨hg, ha⟩))).1⟩
  all_goals nofun

/-! The algebra raises `IncompatibleArgsError` itself and otherwise passes on what a primitive raised. -/
section errors
variable {vars : T → List Var} {P : Prims T} (hE : ErrSpec P) {e : Err}
include hE

omit [DecidableEq T] in
theorem mkContract_error_kinds {a g : List T} {ins outs : List Var} {s : Bool}
    (h : mkContract vars P a g ins outs s = .error e) : e = .incompatibleArgs ∨ e = .valueError ∨ e = .oracleStuck :=
  (mkContract_error h).imp_right fun h => hE.simp_err _ _ _ _ h.2

theorem composeAssumptions_error_kinds {c1 c2 : Contract T} {I : Gen.ComposeIface Var} {ord : List Nat}
    (h : composeAssumptions vars P c1 c2 I ord = .error e) : e = .incompatibleArgs ∨ e = .valueError ∨ e = .oracleStuck := by
  revert h
  fun_cases composeAssumptions vars P c1 c2 I ord <;> rintro ⟨⟩
  · exact .inl rfl
  · exact .inr (hE.refine_err _ _ _ _ _ _ _ ‹_›)
  · exact .inl rfl
  · exact .inr (hE.refine_err _ _ _ _ _ _ _ ‹_›)
  · exact .inl rfl

theorem compose_error_kinds {c1 c2 : Contract T} {keep : List Var} {simp : Bool} {ord : List Nat}
    (h : compose vars P c1 c2 keep simp ord = .error e) : e = .incompatibleArgs ∨ e = .valueError ∨ e = .oracleStuck := by
  revert h
  fun_cases compose vars P c1 c2 keep simp ord
  case case8 => exact mkContract_error_kinds hE
  all_goals rintro ⟨⟩
  · exact .inl rfl
  · exact .inl rfl
  · exact composeAssumptions_error_kinds hE ‹_›
  · rename_i hr
    split at hr
    · exact .inr (hE.simp_err _ _ _ _ hr)
    · cases hr
  · exact .inr (hE.relax_err _ _ _ _ _ _ _ ‹_›)
  · exact .inr (hE.relax_err _ _ _ _ _ _ _ ‹_›)
  · exact .inr (hE.relax_err _ _ _ _ _ _ _ ‹_›)

omit [DecidableEq T] hE in
theorem orElse_error {r : Except Err (List T)} {d : List T} (h : orElse r d = .error e) : r = .error e := by
  revert h
  fun_cases orElse r d <;> rintro ⟨⟩
  rfl

theorem quotient_error_kinds {c c1 : Contract T} {addl : List Var} {simp : Bool} {ord : List Nat}
    (h : quotient vars P c c1 addl simp ord = .error e) : e = .incompatibleArgs ∨ e = .valueError ∨ e = .oracleStuck := by
  revert h
  fun_cases quotient vars P c c1 addl simp ord
  case case8 => exact mkContract_error_kinds hE
  all_goals rintro ⟨⟩
  · exact .inl rfl
  · exact .inl rfl
  · exact .inr (hE.refines_err _ _ _ _ ‹_›)
  · exact .inr (hE.relax_err _ _ _ _ _ _ _ ‹_›)
  · exact .inr (hE.refine_err _ _ _ _ _ _ _ (orElse_error ‹_›))
  · exact .inr (hE.refine_err _ _ _ _ _ _ _ (orElse_error ‹_›))
  · exact .inl rfl

end errors
end Alg
