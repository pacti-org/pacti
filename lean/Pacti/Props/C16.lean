import Pacti.Proofs.Rename
import Pacti.Props.C06
/-!
# C16 — renaming variables is faithful substitution

`PolyAlg.renameTerm` / `rename` / `renameAll` model `PolyhedralTerm.rename_variable`, `IoContract.rename_variable`
(four source/target cases on the generated interface code, constructor with re-simplification) and
`PolyhedralIoContract.rename_variables`.  `substVal v s d` is the valuation that reads `d` where `s` was read: a
behaviour satisfies the renamed constraints exactly when the correspondingly renamed behaviour satisfied the
original ones.
-/
namespace Pacti.C16
open PolyAlg

/-- one constraint: coefficients are added when the new name already occurs; the old name is gone -/
theorem term_rename_sem (t : PTerm) (s d : Var) (hne : s ≠ d) (v : Val) :
    ((renameTerm t s d).holds v ↔ t.holds (substVal v s d)) ∧ s ∉ (renameTerm t s d).vars := by
  refine ⟨renameTerm_holds t s d hne v, fun h => ?_⟩
  rcases renameTerm_vars t s d hne s h with ⟨_, h2⟩ | ⟨h1, _⟩
  · exact h2 rfl
  · exact hne h1

/-- a whole contract: renamed assumptions, and renamed assumptions together with renamed guarantees, hold exactly when
    the renamed behaviour satisfied the originals (`s` an interface variable of a well-formed contract) -/
theorem contract_rename_sem (O : Oracle) (hO : O.Certified) (tie : PTerm → Bool) (tac : Nat → PTerm → TL → List Var → Bool → Elim.TacticRes)
    (c c' : Contract PTerm) (s d : Var) (hne : s ≠ d) (hs : s ∈ c.ins ∨ s ∈ c.outs)
    (h : rename (polyPrims O tie false tac) c s d = .ok c') :
    ∀ v, (TL.holds c'.a v ↔ TL.holds c.a (substVal v s d)) ∧
         (TL.holds c'.a v → (TL.holds c'.g v ↔ TL.holds c.g (substVal v s d))) :=
  fun _ => Alg.rename_sem (polyPrims_spec O hO tie false tac rfl) (renameTerm_holds · s d hne) hne hs h

/-- renaming an absent variable changes nothing: same interface, same assumptions, guarantees equivalent (they are
    re-simplified) -/
theorem rename_absent_sem (O : Oracle) (hO : O.Certified) (tie : PTerm → Bool) (tac : Nat → PTerm → TL → List Var → Bool → Elim.TacticRes)
    (c c' : Contract PTerm) (s d : Var) (hs : s ∉ c.ins ∧ s ∉ c.outs)
    (h : rename (polyPrims O tie false tac) c s d = .ok c') :
    c'.ins = c.ins ∧ c'.outs = c.outs ∧ c'.a = c.a ∧ ∀ v, TL.holds c.a v → (TL.holds c'.g v ↔ TL.holds c.g v) :=
  Alg.rename_noop_sem (polyPrims_spec O hO tie false tac rfl) (.inr hs) h

/-- renaming a variable to itself changes nothing either (the contract level never reaches the term-level transfer,
    which for `s = d` would *delete* the variable: `renameTerm t s s = t.remove s`) -/
theorem rename_self_sem (O : Oracle) (hO : O.Certified) (tie : PTerm → Bool) (tac : Nat → PTerm → TL → List Var → Bool → Elim.TacticRes)
    (c c' : Contract PTerm) (s : Var) (h : rename (polyPrims O tie false tac) c s s = .ok c') :
    c'.ins = c.ins ∧ c'.outs = c.outs ∧ c'.a = c.a ∧ ∀ v, TL.holds c.a v → (TL.holds c'.g v ↔ TL.holds c.g v) :=
  Alg.rename_noop_sem (polyPrims_spec O hO tie false tac rfl) (.inl rfl) h

/-- the term-level transfer at `s = d` really does drop the variable: the guard of the contract level is necessary -/
example : renameTerm (PTerm.mk' [(1, 1), (2, 2)] 3) 1 1 = PTerm.mk' [(2, 2)] 3 := by decide +kernel

theorem rename_iface_in (O : Oracle) (hO : O.Certified) (tie : PTerm → Bool) (tac : Nat → PTerm → TL → List Var → Bool → Elim.TacticRes)
    (c c' : Contract PTerm) (s d : Var) (hne : s ≠ d) (hwf : Pacti.C06.WF PTerm.vars c) (hs : s ∈ c.ins)
    (h : rename (polyPrims O tie false tac) c s d = .ok c') :
    Pacti.C06.WF PTerm.vars c' ∧ c'.outs = c.outs ∧ (∀ x, x ∈ c'.ins ↔ (x ∈ c.ins ∧ x ≠ s) ∨ x = d) :=
  Pacti.C06.rename_iface_in PTerm.vars _ (polyPrims_selects O hO tie false tac) renameTerm c c' s d hne hwf hs h

theorem rename_iface_out (O : Oracle) (hO : O.Certified) (tie : PTerm → Bool) (tac : Nat → PTerm → TL → List Var → Bool → Elim.TacticRes)
    (c c' : Contract PTerm) (s d : Var) (hne : s ≠ d) (hwf : Pacti.C06.WF PTerm.vars c) (hs : s ∈ c.outs)
    (h : rename (polyPrims O tie false tac) c s d = .ok c') :
    Pacti.C06.WF PTerm.vars c' ∧ c'.ins = c.ins ∧ (∀ x, x ∈ c'.outs ↔ (x ∈ c.outs ∧ x ≠ s) ∨ x = d) :=
  Pacti.C06.rename_iface_out PTerm.vars _ (polyPrims_selects O hO tie false tac) renameTerm c c' s d hne hwf hs h

theorem rename_rejects (P : Prims PTerm) (c : Contract PTerm) (s d : Var) (hne : s ≠ d)
    (h : (s ∈ c.ins ∧ d ∈ c.outs) ∨ (s ∈ c.outs ∧ d ∈ c.ins ∧ s ∉ c.ins)) :
    rename P c s d = .error .incompatibleArgs :=
  Pacti.C06.rename_rejects PTerm.vars P renameTerm c s d hne h

/-- renaming to a fresh name and back restores the interface lists exactly (position included) -/
theorem rename_fresh_back_iface (xs : List Var) (s d : Var) (hd : d ∉ xs) :
    Alg.replaceFirst (Alg.replaceFirst xs s d) d s = xs := by
  fun_induction Alg.replaceFirst xs s d
  case case1 => rfl
  case case2 => simp [Alg.replaceFirst]
  case case3 ih =>
    obtain ⟨hdx, hdr⟩ := not_or.mp (mt List.mem_cons.mpr hd)
    simp [Alg.replaceFirst, Ne.symm hdx, ih hdr]

/-- …and the meaning: substituting `d` for `s` and then `s` for `d` is the identity on constraints that do not mention `d` -/
theorem rename_fresh_back_sem (t : PTerm) (s d : Var) (hne : s ≠ d) (hd : d ∉ t.vars) (v : Val) :
    (renameTerm (renameTerm t s d) d s).holds v ↔ t.holds v := by
  rw [renameTerm_holds _ d s (Ne.symm hne), renameTerm_holds _ s d hne]
  unfold PTerm.holds
  have : evalL t.coeffs (substVal (substVal v d s) s d) = evalL t.coeffs v := by
    apply evalL_congr
    intro x hx
    unfold substVal
    by_cases h1 : x = s
    · subst h1
      simp
    · rw [Function.update_of_ne h1]
      have h2 : x ≠ d := fun e => hd (by simpa [PTerm.vars, e] using hx)
      rw [Function.update_of_ne h2]
  rw [this]

/-- a list of mappings is applied in order, starting from a copy -/
theorem renameAll_is_fold (P : Prims PTerm) (c c0 : Contract PTerm) (ms : List (Var × Var)) (h : Alg.copy PTerm.vars P c = .ok c0) :
    renameAll P c ms = ms.foldlM (fun acc m => rename P acc m.1 m.2) c0 := by
  unfold renameAll
  rw [h]

end Pacti.C16
