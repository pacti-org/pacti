import Pacti.Props.C09Full
import Pacti.Model.Parse
/-!
# C09 from the characters of the string

`Model/Parse.lean` models the lexical level of the grammar and pyparsing's ordered choice; `Model/Syntax.lean` models
the parse actions on the tree.  The theorems here are about their composition `Parse.fromChars` — the model of
`polyhedral_termlist_from_string` on the string itself — and hold for **every** string, of any length.

What is proved: whatever tree the model parser builds, the returned inequalities mean exactly what that tree denotes
(`fromChars_sound`), and a string is either translated or rejected with one of the documented errors
(`fromChars_error_kinds`, for a source that converts `ZeroDivisionError`, `Gen.catchZeroDiv`).
What is not proved: that the tree the parser builds is the reading a person expects of the string (there is no
independent definition of that; the correspondence run compares the model parser with pyparsing on every generated
string, and with the tree the generator rendered the string from).
-/
namespace Pacti.C09
open Syntax Parse

/-- the parser's errors: a syntax error, or the `ZeroDivisionError` of an arithmetic parse action -/
theorem parseToks_error_kinds (ts : List Tok) (k : Err) (h : parseToks ts = .error k) : k = .syntax ∨ k = zeroDiv := by
  revert h
  fun_cases parseToks ts <;> rintro ⟨⟩
  · exact .inl rfl
  · exact .inl rfl
  · exact .inr rfl

/-- **Meaning is preserved from the string on**: if the model of `polyhedral_termlist_from_string` returns a term
    list for a string, the string was cut into tokens, the ordered choice built a tree from all of them, and the
    term list holds exactly where that tree's written relation does. -/
theorem fromChars_sound (names : List String) (s : List Char) (tl : TL) (h : fromChars names s = .ok tl) :
    ∃ ts e, lex names (s.length + 1) s = some ts ∧ parseToks ts = .ok e ∧ ∀ v, TL.holds tl v ↔ denote e v := by
  revert h
  fun_cases fromChars names s
  case case2 ts hl =>
    fun_cases fromToksG ts
    case case3 e hp =>
      fun_cases fromStringG e
      case case3 ht =>
        rintro ⟨⟩
        exact ⟨ts, e, hl, hp, translate_sound e _ ht⟩
      all_goals nofun
    all_goals nofun
  all_goals nofun

/-- the `except ZeroDivisionError: raise ValueError` wrapper (the same `if` in `fromToksG` and `fromStringG`) turns
    the three raw error kinds into the three documented ones -/
theorem catch_kinds (hc : Gen.catchZeroDiv = true) {α : Type} {x k : Err}
    (hx : x = .syntax ∨ x = .convex ∨ x = zeroDiv)
    (h : (if x == zeroDiv && Gen.catchZeroDiv then .error .valueError else .error x : Except Err α) = .error k) :
    k = .syntax ∨ k = .convex ∨ k = .valueError := by
  rw [hc, Bool.and_true] at h
  split at h
  · cases h
    exact .inr (.inr rfl)
  · cases h
    rcases hx with rfl | rfl | rfl
    · exact .inl rfl
    · exact .inr (.inl rfl)
    · exact absurd (beq_self_eq_true _) ‹_›

/-- **Only documented errors, for every string**: the model of `polyhedral_termlist_from_string` rejects a string
    with the syntax error, the convexity error or `ValueError` (a division by zero in constant arithmetic) and with
    nothing else, provided the source converts `ZeroDivisionError` (`hc`). -/
theorem fromChars_error_kinds (hc : Gen.catchZeroDiv = true) (names : List String) (s : List Char) (k : Err)
    (h : fromChars names s = .error k) : k = .syntax ∨ k = .convex ∨ k = .valueError := by
  unfold fromChars at h
  split at h
  · cases h
    exact .inl rfl
  · unfold fromToksG at h
    split at h
    · exact catch_kinds hc ((parseToks_error_kinds _ _ ‹_›).imp_right .inr) h
    · unfold fromStringG at h
      split at h
      · exact catch_kinds hc (.inr (translate_error_kinds _ _ _ _ ‹_›)) h
      · cases h

/-- the instance for the source as it is; checks only against a source that converts `ZeroDivisionError` -/
theorem fromChars_error_kinds_now (names : List String) (s : List Char) (k : Err)
    (h : fromChars names s = .error k) : k = .syntax ∨ k = .convex ∨ k = .valueError :=
  fromChars_error_kinds rfl names s k h

/-- `2x + 3 y <= 4` -/
example : fromChars ["_", "x", "y"] "2x + 3 y <= 4".toList = .ok [⟨[(1, 2), (2, 3)], 4⟩] := by decide +kernel

/-- an absolute value, a multiplier in constant arithmetic, a chain of two `>=` -/
example : fromChars ["_", "x", "y"] "|x| + (2*3)y >= 1 >= -y".toList = .error .convex := by decide +kernel

/-- `(2+3)x` is a syntax error (the parenthesis is read as a parenthesised term list), `(2+3)(x+y)` is not -/
example : fromChars ["_", "x", "y"] "(2+3)x <= 1".toList = .error .syntax := by decide +kernel
example : fromChars ["_", "x", "y"] "(2+3)(x+y) <= 1".toList = .ok [⟨[(1, 5), (2, 5)], 1⟩] := by decide +kernel

/-- the arithmetic parse action runs, and raises, before the later syntax error is noticed -/
example : fromChars ["_", "x"] "(1/0) x <= <= 2".toList = .error .valueError := by decide +kernel

/-- exponent forms and a leading point -/
example : fromChars ["_", "x", "y"] "1e2x - .5y == 3".toList
    = .ok [⟨[(1, 100), (2, -1/2)], 3⟩, ⟨[(1, -100), (2, 1/2)], -3⟩] := by decide +kernel

end Pacti.C09
