import Pacti.Proofs.Dict
/-!
# C14 — failures are reported only through the documented exceptions (dictionary / file-entry part)

* `J` is the type of *all* JSON values; `readFile cfg E j` is `read_contracts_from_file` after `json.load`,
  `readEntry cfg E j` its two loop bodies for one element, `fromDict`, `validateContractDict` the public
  functions of the same names.  Every way the Python code can fail on a JSON value is an explicit
  `.error (.py "KeyError" | "TypeError" | "AssertionError" | "AttributeError" | "ZeroDivisionError")`.
* `cfg : Cfg` says which tests / raises are present in the source (`Cfg.current` is read off the source by
  `tools/py2lean.py` on every run; `Cfg.pinned` is the pinned tree: none of them).
* `E : Ext` is what other properties cover: the term and contract constructors and the grammar.  `E.Documented`
  is the assumption that they raise only documented errors (the grammar may let the `ZeroDivisionError` of its
  constant-folding parse actions through — `Arith` below shows that is the only fault constant arithmetic has).
* `decodeEntry`, `decodeMachine`, … are the *specification*: plain pattern matching that says which JSON values
  have all required fields of the right kind, and `build…` is the constructor call on exactly those fields.

The full-strength statements hold for the repaired validation (`cfg.allRepaired`) and are **false for the pinned
code**: `…_counterexample_pinned` below are evaluated witnesses, one per escaping class.
-/
namespace Pacti.C14
open Dict

variable {T C CC : Type}

/-- **Only documented errors, for every JSON value.**  Whatever `json.load` returned — not only single-field
    faults of valid files — the repaired `read_contracts_from_file` either returns or raises one of
    ContractFormatError, ValueError, IncompatibleArgsError, the syntax error, the convexity error. -/
theorem documented_errors_dict (cfg : Cfg) (hc : cfg.allRepaired = true) (E : Ext T C CC) (hE : E.Documented)
    (j : J) (e : Err) (h : readFile cfg E j = .error e) :
    e ∈ [Err.contractFormat, .valueError, .incompatibleArgs, .syntax, .convex] := by
  rw [Cfg.eq_repaired cfg hc] at h
  refine documented_iff_mem.1 ?_
  cases j with
  | arr l =>
    have hl := readFile_arr_spec E Cfg.repaired l
    rw [h] at hl
    obtain ⟨x, _, hx⟩ := hl
    exact readEntry_doc E hE hx
  | _ => cases h; rfl

/-- The same for one file entry (the two loop bodies of `read_contracts_from_file` on one element). -/
theorem documented_errors_entry (cfg : Cfg) (hc : cfg.allRepaired = true) (E : Ext T C CC) (hE : E.Documented)
    (j : J) (e : Err) (h : readEntry cfg E j = .error e) :
    e ∈ [Err.contractFormat, .valueError, .incompatibleArgs, .syntax, .convex] := by
  rw [Cfg.eq_repaired cfg hc] at h
  exact documented_iff_mem.1 (readEntry_doc E hE h)

/-- `validate_contract_dict` (both representations) rejects with `ContractFormatError` and nothing else,
    for every JSON value and every name. -/
theorem documented_errors_validate (cfg : Cfg) (hc : cfg.allRepaired = true) (j nm : J) (machine : Bool) (e : Err)
    (h : validateContractDict cfg j nm machine = .error e) : e = .contractFormat := by
  rw [Cfg.eq_repaired cfg hc] at h
  cases machine with
  | true =>
    rw [validate_machine_spec] at h
    exact verdict_error h
  | false =>
    rw [validate_strings_spec] at h
    exact verdict_error h

/-- `validate_contract_dict` accepts exactly the dictionaries with all four fields of the right kind. -/
theorem validate_accepts_iff (cfg : Cfg) (hc : cfg.allRepaired = true) (j nm : J) :
    (validateContractDict cfg j nm true = .ok () ↔ (decodeMachine j).isSome = true)
    ∧ (validateContractDict cfg j nm false = .ok () ↔ (decodeStrings j).isSome = true) := by
  rw [Cfg.eq_repaired cfg hc, validate_machine_spec, validate_strings_spec]
  exact ⟨verdict_ok_iff, verdict_ok_iff⟩

/-- `PolyhedralIoContract.from_dict` called directly (no `validate_contract_dict` before it): every JSON value is
    either read as the machine dictionary it is, or rejected with `ValueError`. -/
theorem from_dict_spec (cfg : Cfg) (hc : cfg.allRepaired = true) (E : Ext T C CC) (j : J) (s : Bool) :
    fromDict cfg E j s = match decodeMachine j with
      | some r => buildMachine E r s
      | none => .error .valueError := by
  rw [Cfg.eq_repaired cfg hc]
  exact fromDict_repaired E j s

/-- …hence only documented errors from `from_dict`. -/
theorem documented_errors_from_dict (cfg : Cfg) (hc : cfg.allRepaired = true) (E : Ext T C CC) (hE : E.Documented)
    (j : J) (s : Bool) (e : Err) (h : fromDict cfg E j s = .error e) :
    e ∈ [Err.contractFormat, .valueError, .incompatibleArgs, .syntax, .convex] := by
  rw [from_dict_spec cfg hc] at h
  refine documented_iff_mem.1 ?_
  revert h
  cases decodeMachine j with
  | none =>
    rintro ⟨⟩
    rfl
  | some r => exact hE.mk_doc _ _ _ _ _ _

/-- **Nothing is read as something else.**  If an entry is accepted then it has "type", a string "name" and a
    "data" dictionary with all four fields of the right kind for that type (`decodeEntry j = some d`), and the
    result is the constructor's answer on exactly those fields, with that name. -/
theorem no_misread (cfg : Cfg) (hc : cfg.allRepaired = true) (E : Ext T C CC) (j : J) (c : Loaded C CC × J)
    (h : readEntry cfg E j = .ok c) : ∃ d, decodeEntry j = some d ∧ buildEntry cfg E d = .ok c := by
  rw [Cfg.eq_repaired cfg hc] at h ⊢
  rcases readEntry_spec E j with ⟨d, hd, hr⟩ | ⟨_, hr | hr⟩
  · exact ⟨d, hd, by rw [← hr]; exact h⟩
  · rw [hr] at h
    cases h
  · rw [hr] at h
    cases h

/-- …and conversely a well-kinded entry is never rejected by the reader itself: the outcome *is* the
    constructor's (resp. the parser's) outcome on the fields. -/
theorem valid_entry_read (cfg : Cfg) (hc : cfg.allRepaired = true) (E : Ext T C CC) (j : J) (d : Decoded)
    (h : decodeEntry j = some d) : readEntry cfg E j = buildEntry cfg E d := by
  rw [Cfg.eq_repaired cfg hc]
  rcases readEntry_spec E j with ⟨d', hd, hr⟩ | ⟨hd, _⟩
  · rw [h] at hd
    cases hd
    exact hr
  · rw [h] at hd
    cases hd

/-- An entry that does not decode is rejected with `ContractFormatError` or `ValueError` (the two classes the property names
    for malformed dictionaries). -/
theorem wrong_kind_rejected (cfg : Cfg) (hc : cfg.allRepaired = true) (E : Ext T C CC) (j : J)
    (h : decodeEntry j = none) :
    readEntry cfg E j = .error .contractFormat ∨ readEntry cfg E j = .error .valueError := by
  rw [Cfg.eq_repaired cfg hc]
  rcases readEntry_spec E j with ⟨d', hd, _⟩ | ⟨_, hr⟩
  · rw [h] at hd
    cases hd
  · exact hr

/-- The file level of `no_misread`: an accepted file is a list, and its entries and the returned (contract, name)
    pairs correspond one to one. -/
theorem no_misread_file (cfg : Cfg) (hc : cfg.allRepaired = true) (E : Ext T C CC) (j : J)
    (cs : List (Loaded C CC × J)) (h : readFile cfg E j = .ok cs) :
    ∃ l, j = .arr l ∧ Rel2 (fun x c => ∃ d, decodeEntry x = some d ∧ buildEntry cfg E d = .ok c) l cs := by
  cases j with
  | arr l =>
    refine ⟨l, rfl, ?_⟩
    have hr := readFile_arr_spec E cfg l
    rw [h] at hr
    clear h
    induction hr with
    | nil => exact .nil
    | cons hab _ ih => exact .cons (no_misread cfg hc E _ _ hab) ih
  | _ => cases h

/-- From `from_dict`: an accepted value is a well-kinded machine dictionary and the result is the constructor's
    answer on its fields (zero coefficients dropped). -/
theorem no_misread_from_dict (cfg : Cfg) (hc : cfg.allRepaired = true) (E : Ext T C CC) (j : J) (s : Bool) (c : C)
    (h : fromDict cfg E j s = .ok c) : ∃ r, decodeMachine j = some r ∧ buildMachine E r s = .ok c := by
  rw [from_dict_spec cfg hc] at h
  revert h
  cases decodeMachine j with
  | none => nofun
  | some r => exact fun h => ⟨r, rfl, h⟩

mutual
/-- The only fault of the grammar's constant folding is a division by zero. -/
theorem arith_errors : ∀ (a : Arith.AExp) (x : Err), Arith.eval a = .error x → x = eZeroDiv
  | .num q, x, h => by cases h
  | .chain first rest, x, h => by
    simp only [Arith.eval] at h
    split at h
    next h1 => cases h; exact arith_errors first _ h1
    next =>
      split at h
      next h2 => cases h; exact arith_errors_rest rest _ h2
      next => cases h
      next =>
        split at h
        · exact applyAll_errors _ _ _ h
        · exact apply_errors _ _ _ _ h
theorem arith_errors_rest : ∀ (l : List (Arith.Op × Arith.AExp)) (x : Err), Arith.evalRest l = .error x → x = eZeroDiv
  | [], x, h => by cases h
  | (op, a) :: r, x, h => by
    simp only [Arith.evalRest] at h
    split at h
    next h1 => cases h; exact arith_errors a _ h1
    next =>
      split at h
      next h2 => cases h; exact arith_errors_rest r _ h2
      next => cases h
end

/-- With the handler in `polyhedral_termlist_from_string`, a faulty constant expression is a `ValueError`. -/
theorem documented_errors_arith (cfg : Cfg) (hc : cfg.catchZeroDiv = true) (a : Arith.AExp) (x : Err)
    (h : Arith.evalCaught cfg a = .error x) : x = .valueError := by
  revert h
  fun_cases Arith.evalCaught cfg a <;> rintro ⟨⟩
  · rfl
  · rename_i h1 hn
    cases arith_errors a _ h1
    rw [hc, beq_self_eq_true] at hn
    exact absurd rfl hn

/- Where the escape happens before the constructors or the grammar are consulted, the witness is stated for every
   environment `E` (`…_all`) and, as its instance, on `E0`.  The evaluations are `by rfl`: a theorem whose body is the
   term `rfl` is also validated as a `dsimp` lemma (`@[defeq]`), which evaluates both sides a second time. -/

/-- well-formed pieces used by the witnesses -/
def okData : List (String × J) :=
  [("input_vars", .arr [.str "i"]), ("output_vars", .arr [.str "o"]),
   ("assumptions", .arr [.obj [("constant", .num 2), ("coefficients", .obj [("i", .num 1)])]]),
   ("guarantees", .arr [.obj [("constant", .num 3), ("coefficients", .obj [("o", .num 1)])]])]

def withAssumption (clause : J) : J :=
  .obj [("input_vars", .arr [.str "i"]), ("output_vars", .arr [.str "o"]), ("assumptions", .arr [clause]),
        ("guarantees", .arr [])]

def machineEntry (data : J) : J :=
  .obj [("type", .str "PolyhedralIoContract_machine"), ("name", .str "c"), ("data", data)]

/-- missing "constant": the `ContractFormatError` is built but not raised, `clause["constant"]` is a `KeyError` -/
theorem documented_errors_dict_counterexample_pinned_missing_constant_all (E : Ext T C CC) :
    readFile Cfg.pinned E (.arr [machineEntry (withAssumption (.obj [("coefficients", .obj [("i", .num 1)])]))])
      = .error (.py "KeyError") := by
  rfl

theorem documented_errors_dict_counterexample_pinned_missing_constant :
    errOf (readFile Cfg.pinned E0 (.arr [machineEntry (withAssumption (.obj [("coefficients", .obj [("i", .num 1)])]))]))
      = some (.py "KeyError") :=
  congrArg errOf (documented_errors_dict_counterexample_pinned_missing_constant_all E0)

/-- `"coefficients": 3` given to `from_dict`: `(3).items()` is an `AttributeError` -/
theorem documented_errors_dict_counterexample_pinned_coefficients_3_all (E : Ext T C CC) (s : Bool) :
    fromDict Cfg.pinned E (withAssumption (.obj [("constant", .num 1), ("coefficients", .num 3)])) s
      = .error (.py "AttributeError") := by
  rfl

theorem documented_errors_dict_counterexample_pinned_coefficients_3 :
    errOf (fromDict Cfg.pinned E0 (withAssumption (.obj [("constant", .num 1), ("coefficients", .num 3)])) true)
      = some (.py "AttributeError") :=
  congrArg errOf (documented_errors_dict_counterexample_pinned_coefficients_3_all E0 true)

/-- clause = "abc": `"abc"["constant"]` is a `TypeError` -/
theorem documented_errors_dict_counterexample_pinned_clause_string_all (E : Ext T C CC) :
    validateContractDict Cfg.pinned (withAssumption (.str "abc")) (.str "c") true = .error (.py "TypeError")
    ∧ readFile Cfg.pinned E (.arr [machineEntry (withAssumption (.str "abc"))]) = .error (.py "TypeError") :=
  ⟨rfl, rfl⟩

theorem documented_errors_dict_counterexample_pinned_clause_string :
    errOf (readFile Cfg.pinned E0 (.arr [machineEntry (withAssumption (.str "abc"))])) = some (.py "TypeError") :=
  congrArg errOf (documented_errors_dict_counterexample_pinned_clause_string_all E0).2

/-- constant `null` passes validation; `float(None)` is a `TypeError` -/
theorem documented_errors_dict_counterexample_pinned_constant_null_all (E : Ext T C CC) :
    readFile Cfg.pinned E (.arr [machineEntry (withAssumption (.obj [("constant", .null), ("coefficients", .obj [])]))])
      = .error (.py "TypeError") := by
  rfl

theorem documented_errors_dict_counterexample_pinned_constant_null :
    validateContractDict Cfg.pinned (withAssumption (.obj [("constant", .null), ("coefficients", .obj [])])) (.str "c") true
      = .ok ()
    ∧ errOf (readFile Cfg.pinned E0
        (.arr [machineEntry (withAssumption (.obj [("constant", .null), ("coefficients", .obj [])]))]))
      = some (.py "TypeError") :=
  ⟨rfl, congrArg errOf (documented_errors_dict_counterexample_pinned_constant_null_all E0)⟩

/-- entry without "type": `assert "type" in entry` -/
theorem documented_errors_dict_counterexample_pinned_no_type_all (E : Ext T C CC) :
    readFile Cfg.pinned E (.arr [.obj [("name", .str "c"), ("data", .obj okData)]]) = .error (.py "AssertionError") := by
  rfl

theorem documented_errors_dict_counterexample_pinned_no_type :
    errOf (readFile Cfg.pinned E0 (.arr [.obj [("name", .str "c"), ("data", .obj okData)]])) = some (.py "AssertionError") :=
  congrArg errOf (documented_errors_dict_counterexample_pinned_no_type_all E0)

/-- entry that is not a dictionary: `assert isinstance(entry, dict)` -/
theorem documented_errors_dict_counterexample_pinned_entry_not_dict_all (E : Ext T C CC) :
    readFile Cfg.pinned E (.arr [.num 3]) = .error (.py "AssertionError") := by rfl

theorem documented_errors_dict_counterexample_pinned_entry_not_dict :
    errOf (readFile Cfg.pinned E0 (.arr [.num 3])) = some (.py "AssertionError") :=
  congrArg errOf (documented_errors_dict_counterexample_pinned_entry_not_dict_all E0)

/-- file data that is not a list: `assert isinstance(file_data, list)` -/
theorem documented_errors_dict_counterexample_pinned_not_list_all (E : Ext T C CC) :
    readFile Cfg.pinned E (.obj []) = .error (.py "AssertionError") := by rfl

theorem documented_errors_dict_counterexample_pinned_not_list :
    errOf (readFile Cfg.pinned E0 (.obj [])) = some (.py "AssertionError") :=
  congrArg errOf (documented_errors_dict_counterexample_pinned_not_list_all E0)

/-- entry without "data": `entry["data"]` is a `KeyError` -/
theorem documented_errors_dict_counterexample_pinned_no_data (E : Ext T C CC) :
    readFile Cfg.pinned E (.arr [.obj [("type", .str "PolyhedralIoContract"), ("name", .str "c")]])
      = .error (.py "KeyError") := by
  rfl

/-- compound entry whose data lacks "assumptions": `from_strings(**data)` is a `TypeError` -/
theorem documented_errors_dict_counterexample_pinned_compound (E : Ext T C CC) :
    readFile Cfg.pinned E (.arr [.obj [("type", .str "PolyhedralIoContractCompound"), ("name", .str "c"),
      ("data", .obj [("guarantees", .arr []), ("input_vars", .arr []), ("output_vars", .arr [])])]])
      = .error (.py "TypeError") := by
  rfl

/-- `"(1/0)x <= 1"`: the `ZeroDivisionError` of the parse action escapes (environment: the grammar answers that
    string with the fault `arith_errors` allows) -/
theorem documented_errors_dict_counterexample_pinned_zero_division :
    errOf (readFile Cfg.pinned (tableExt [("(1/0)x <= 1", .error eZeroDiv)] none [])
      (.arr [.obj [("type", .str "PolyhedralIoContract"), ("name", .str "c"),
        ("data", .obj [("assumptions", .arr []), ("guarantees", .arr [.str "(1/0)x <= 1"]), ("input_vars", .arr []),
          ("output_vars", .arr [.str "x"])])]]))
      = some (.py "ZeroDivisionError")
    ∧ Arith.evalCaught Cfg.pinned (.chain (.num 1) [(.div, .num 0)]) = .error (.py "ZeroDivisionError")
    ∧ Arith.evalCaught Cfg.pinned (.chain (.num 1) [(.div, .chain (.num 2) [(.sub, .num 2)])])
        = .error (.py "ZeroDivisionError") := by decide +kernel

/-- `no_misread` is false for the pinned code: a constant `true` is accepted and read as the number 1, a clause
    list `""` given to `from_dict` is read as "no assumptions", and a compound entry with `"assumptions": null`
    is read as the contract without assumptions. -/
theorem no_misread_counterexample_pinned :
    (decodeEntry (machineEntry (withAssumption (.obj [("constant", .bool true), ("coefficients", .obj [("i", .num 1)])]))) = none
      ∧ readEntry Cfg.pinned E0 (machineEntry (withAssumption (.obj [("constant", .bool true), ("coefficients", .obj [("i", .num 1)])])))
        = .ok (.simple ⟨[([("i", 1)], 1)], [], ["i"], ["o"], true⟩, .str "c"))
    ∧ (decodeMachine (.obj [("input_vars", .arr []), ("output_vars", .arr []), ("assumptions", .str ""), ("guarantees", .arr [])]) = none
      ∧ fromDict Cfg.pinned E0 (.obj [("input_vars", .arr []), ("output_vars", .arr []), ("assumptions", .str ""), ("guarantees", .arr [])]) false
        = .ok ⟨[], [], [], [], false⟩)
    ∧ (decodeEntry (.obj [("type", .str "PolyhedralIoContractCompound"), ("name", .str "c"),
          ("data", .obj [("assumptions", .null), ("guarantees", .arr []), ("input_vars", .arr []), ("output_vars", .arr [])])]) = none
      ∧ readEntry Cfg.pinned E0 (.obj [("type", .str "PolyhedralIoContractCompound"), ("name", .str "c"),
          ("data", .obj [("assumptions", .null), ("guarantees", .arr []), ("input_vars", .arr []), ("output_vars", .arr [])])])
        = .ok (.compound ⟨[], [], [], []⟩, .str "c")) :=
  ⟨⟨rfl, rfl⟩, ⟨rfl, rfl⟩, ⟨rfl, rfl⟩⟩

/-- environment in which the grammar answers `"(1/0)x <= 1"` with the division fault (and nothing else parses) -/
def Ez : Ext RawTerm RawContract RawCompound := tableExt [("(1/0)x <= 1", .error eZeroDiv)] none []

theorem Ez_documented : Ez.Documented :=
  tableExt_documented _ _ (by simp [eZeroDiv])

-- one witness per repair: a JSON value on which the unrepaired spot lets an undocumented exception through

def wDictTest : J := .arr [.obj [("type", .str "PolyhedralIoContract_machine"), ("name", .str "c"), ("data",
  .obj [("input_vars", .arr []), ("output_vars", .arr []), ("assumptions", .arr [.arr [.str "constant"]]), ("guarantees", .arr [])])]]
def wRaises : J := .arr [.obj [("type", .str "PolyhedralIoContract_machine"), ("name", .str "c"), ("data",
  .obj [("input_vars", .arr []), ("output_vars", .arr []), ("assumptions", .arr [.obj [("coefficients", .obj [])]]), ("guarantees", .arr [])])]]
def wNum : J := .arr [.obj [("type", .str "PolyhedralIoContract_machine"), ("name", .str "c"), ("data",
  .obj [("input_vars", .arr []), ("output_vars", .arr []), ("assumptions", .arr [.obj [("constant", .null), ("coefficients", .obj [])]]), ("guarantees", .arr [])])]]
def wFile : J := .num 3
def wCompound : J := .arr [.obj [("type", .str "PolyhedralIoContractCompound"), ("name", .str "c"), ("data",
  .obj [("guarantees", .arr []), ("input_vars", .arr []), ("output_vars", .arr [])])]]
def wFromDict : J := .obj [("input_vars", .arr []), ("output_vars", .arr []), ("assumptions", .arr [.obj [("constant", .num 1), ("coefficients", .num 3)]]), ("guarantees", .arr [])]
def wZero : J := .arr [.obj [("type", .str "PolyhedralIoContract"), ("name", .str "c"), ("data",
  .obj [("assumptions", .arr []), ("guarantees", .arr [.str "(1/0)x <= 1"]), ("input_vars", .arr []), ("output_vars", .arr [.str "x"])])]]

/-- an undocumented exception escapes from `read_contracts_from_file` or from `from_dict` -/
def Escapes (cfg : Cfg) : Prop :=
  ∃ j k, errOf (readFile cfg Ez j) = some (.py k) ∨ errOf (fromDict cfg Ez j true) = some (.py k)

/-- **Every repair is needed.**  For each of the seven spots, as long as it is unrepaired an undocumented
    exception escapes on a concrete JSON value — whatever the state of the other six. -/
theorem repairs_necessary (cfg : Cfg) (h : cfg.allRepaired = false) : Escapes cfg := by
  obtain ⟨dictTest, raises, numTest, fileChecked, compoundChecked, fromDictValidates, catchZeroDiv⟩ := cfg
  -- `fileChecked` is split first: every witness below passes the first loop, and which of its two versions runs is the
  -- one thing that has to be known for the rest to evaluate; the flags not yet split stay variables.
  cases fileChecked
  · exact ⟨wFile, "AssertionError", .inl rfl⟩
  cases dictTest
  · exact ⟨wDictTest, "TypeError", .inl rfl⟩
  cases raises
  · exact ⟨wRaises, "KeyError", .inl rfl⟩
  cases fromDictValidates
  · exact ⟨wFromDict, "AttributeError", .inr rfl⟩
  cases numTest
  · exact ⟨wNum, "TypeError", .inl rfl⟩
  cases compoundChecked
  · exact ⟨wCompound, "TypeError", .inl rfl⟩
  cases catchZeroDiv
  · exact ⟨wZero, "ZeroDivisionError", .inl rfl⟩
  · cases h

/-- **The property holds of a source configuration exactly when every repair is present**: only documented errors
    from `read_contracts_from_file` and `from_dict`, for all JSON values and all environments whose constructors and
    grammar behave, iff `allRepaired`.  (`Cfg.current`, read off the source on every run, is one such `cfg`.) -/
theorem documented_errors_iff (cfg : Cfg) :
    (∀ E : Ext RawTerm RawContract RawCompound, E.Documented → ∀ (j : J) (e : Err),
        (readFile cfg E j = .error e ∨ fromDict cfg E j true = .error e) → documented e = true)
    ↔ cfg.allRepaired = true := by
  constructor
  · intro H
    cases hc : cfg.allRepaired with
    | true => rfl
    | false =>
      obtain ⟨j, k, hk | hk⟩ := repairs_necessary cfg hc
      · cases H Ez Ez_documented j _ (.inl (errOf_some hk))
      · cases H Ez Ez_documented j _ (.inr (errOf_some hk))
  · intro hc E hE j e h
    refine documented_iff_mem.2 ?_
    rcases h with h | h
    · exact documented_errors_dict cfg hc E hE j e h
    · exact documented_errors_from_dict cfg hc E hE j true e h

/-- the assumption on the environment is satisfiable (by the driver's table environments with documented answers) -/
example : (E0).Documented :=
  tableExt_documented _ _ (by simp)

/-- a valid machine entry is read as what it denotes, on the repaired configuration -/
example : readEntry Cfg.repaired E0 (machineEntry (.obj okData))
    = .ok (.simple ⟨[([("i", 1)], 2)], [([("o", 1)], 3)], ["i"], ["o"], true⟩, .str "c") := by rfl

/-- the witnesses above are all rejected with documented errors once repaired -/
example : errOf (readFile Cfg.repaired E0 (.arr [machineEntry (withAssumption (.str "abc"))])) = some .contractFormat := by
  decide +kernel
example : errOf (readFile Cfg.repaired E0 (.arr [.num 3])) = some .contractFormat := by decide +kernel
example : errOf (fromDict Cfg.repaired E0 (withAssumption (.obj [("constant", .num 1), ("coefficients", .num 3)])) true)
    = some .valueError := by decide +kernel
example : Arith.evalCaught Cfg.repaired (.chain (.num 1) [(.div, .num 0)]) = .error .valueError := by decide +kernel
example : Arith.eval (.chain (.num 8) [(.div, .num 2), (.div, .num 2)]) = .ok (if Gen.arithFold then 2 else 4) := by decide +kernel

end Pacti.C14
