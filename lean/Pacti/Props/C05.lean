import Pacti.Proofs.Algebra
/-!
# C05 — the algebra layer is sound for any constraint domain meeting the primitive specs

`T` is an arbitrary term type with an arbitrary notion of `holds`; `P : Prims T` are arbitrary per-call-site
primitives of which only `Alg.Spec` is assumed.  `Alg.compose/quotient/merge/refinesC` are the models of
`IoContract.compose_tactics/quotient_tactics/merge/refines`; their interface lists and decisions are the
definitions generated from the source (`Gen.*_iface`).  `Spec holds P` leaves `okOrd` at its default, every order: hence
the `trivial` below.
-/
namespace Pacti.C05
open Alg
variable {T : Type} [DecidableEq T] (holds : T → Val → Prop) (vars : T → List Var) (P : Prims T)

/-- composition: where the result's assumptions hold and each operand honours its contract, both operands'
    assumptions hold and the result's guarantees hold — for every wiring, kept set, flag, tactic order and every
    outcome of every primitive call -/
theorem compose_sound (hP : Spec holds P) (c1 c2 c : Contract T) (keep : List Var) (simp : Bool) (ord : List Nat)
    (h : compose vars P c1 c2 keep simp ord = .ok c) :
    ∀ v, H holds c.a v → (H holds c1.a v → H holds c1.g v) → (H holds c2.a v → H holds c2.g v) →
      H holds c1.a v ∧ H holds c2.a v ∧ H holds c.g v :=
  Alg.compose_sound holds vars P hP c1 c2 c keep simp ord trivial h

/-- quotient: any implementation of the divisor put together with any implementation of the quotient meets the
    dividend -/
theorem quotient_sound (hP : Spec holds P) (c c1 q : Contract T) (addl : List Var) (simp : Bool) (ord : List Nat)
    (h : quotient vars P c c1 addl simp ord = .ok q) :
    ∀ v, H holds c.a v → (H holds c1.a v → H holds c1.g v) → (H holds q.a v → H holds q.g v) →
      H holds c1.a v ∧ H holds q.a v ∧ H holds c.g v :=
  Alg.quotient_sound holds vars P hP c c1 q addl simp ord trivial h

/-- merging is the exact conjunction of the two viewpoints -/
theorem merge_exact (hP : Spec holds P) (c1 c2 m : Contract T) (h : merge vars P c1 c2 = .ok m) :
    (∀ v, H holds m.a v ↔ H holds c1.a v ∧ H holds c2.a v) ∧
    (∀ v, H holds m.a v → (H holds m.g v ↔ H holds c1.g v ∧ H holds c2.g v)) :=
  Alg.merge_exact holds vars P hP c1 c2 m h

/-- contract refinement answers `True` only for refinement -/
theorem refines_sound (hP : Spec holds P) (c d : Contract T) (h : refinesC P c d = .ok true) :
    (∀ v, H holds d.a v → H holds c.a v) ∧ (∀ v, H holds d.a v → H holds c.g v → H holds d.g v) :=
  Alg.refinesC_sound holds P hP c d h

/-- the algebra fails only with `IncompatibleArgsError` or with a primitive's `ValueError` -/
theorem algebra_errors (hE : ErrSpec P) (c1 c2 : Contract T) (xs : List Var) (simp : Bool) (ord : List Nat) (e : Err) :
    (compose vars P c1 c2 xs simp ord = .error e ∨ quotient vars P c1 c2 xs simp ord = .error e ∨ merge vars P c1 c2 = .error e) →
    e = .incompatibleArgs ∨ e = .valueError ∨ e = .oracleStuck := by
  rintro (h | h | h)
  · exact compose_error_kinds hE h
  · exact quotient_error_kinds hE h
  · exact mkContract_error_kinds hE h

end Pacti.C05
