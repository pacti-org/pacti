import Pacti.Proofs.Reduce
/-!
# C07 — simplification never changes meaning and leaves nothing redundant

`simplify O tie l Γ` is the model of `PolyhedralTermList.simplify` (`Γ = none`: called without a context).  `tie`
resolves the float comparison when the exact LP optimum *equals* the bound (the implementation may go either
way there; every theorem is for all `tie`).
-/
namespace Pacti.C07
open Poly

-- the same facts one level down, for `reduce_polytope` with its early returns (`core_error`: `Proofs/Reduce.lean`)
theorem core_selection (O : Oracle) (hO : O.Certified) (tie : PTerm → Bool) (rows ctx r : TL)
    (h : simplifyCore O tie rows ctx = .ok r) : r.Sublist rows :=
  (simplifyCore_ok O hO tie rows ctx r h).1

theorem core_equiv (O : Oracle) (hO : O.Certified) (tie : PTerm → Bool) (rows ctx r : TL)
    (h : simplifyCore O tie rows ctx = .ok r) : ∀ v, TL.holds ctx v → (TL.holds r v ↔ TL.holds rows v) :=
  (simplifyCore_ok O hO tie rows ctx r h).2.1

theorem core_irredundant (O : Oracle) (hO : O.Certified) (tie : PTerm → Bool) (rows ctx r : TL)
    (hp : rows.Proper) (h : simplifyCore O tie rows ctx = .ok r)
    (hhelper : ctx = [] ∨ 0 < (Gen.list_union rows.vars ctx.vars).length) :
    ∀ r1 t r2, r = r1 ++ t :: r2 →
      ∃ v, TL.holds ctx v ∧ TL.holds (r1 ++ r2) v ∧ t.const ≤ evalL t.coeffs v :=
  (simplifyCore_ok O hO tie rows ctx r h).2.2 hp hhelper

/-- the result is a selection (sub-list, same order, same coefficients and constants) of the original rows -/
theorem simplify_selection (O : Oracle) (hO : O.Certified) (tie : PTerm → Bool) (l : TL) (Γ : Option TL) (r : TL)
    (h : simplify O tie l Γ = .ok r) : r.Sublist l :=
  (simplify_ok O hO tie l Γ r h).1

/-- equivalent to the original wherever the context holds -/
theorem simplify_equiv (O : Oracle) (hO : O.Certified) (tie : PTerm → Bool) (l : TL) (Γ : Option TL) (r : TL)
    (h : simplify O tie l Γ = .ok r) : ∀ v, TL.holds (ctxOf Γ) v → (TL.holds r v ↔ TL.holds l v) :=
  (simplify_ok O hO tie l Γ r h).2.1

/-- `ValueError` only when the constraints are infeasible in the context (terms mention at least one variable: for
    variable-free rows the solver rejects the zero-column matrix with a ValueError of its own) -/
theorem simplify_error_infeasible (O : Oracle) (hO : O.Certified) (tie : PTerm → Bool) (l : TL) (hp : l.Proper) (Γ : Option TL) (e : Err)
    (h : simplify O tie l Γ = .error e) :
    (e = .valueError ∧ ¬ ∃ v, TL.holds (ctxOf Γ) v ∧ TL.holds l v) ∨ e = .oracleStuck :=
  simplify_error O hO tie l hp Γ e h

/-- nothing redundant is left: for every surviving row there is a behaviour of the context and of the *other*
    surviving rows at which the row is tight or violated (it is strictly violated unless the run met an exact tie).
    Side condition: the call really hands its context to the LP (always, except when no variable occurs at all). -/
theorem simplify_irredundant (O : Oracle) (hO : O.Certified) (tie : PTerm → Bool) (l : TL) (Γ : Option TL) (r : TL)
    (hp : l.Proper) (h : simplify O tie l Γ = .ok r)
    (hvars : ctxOf Γ = [] ∨ (ctxOf Γ).vars ≠ []) :
    ∀ r1 t r2, r = r1 ++ t :: r2 →
      ∃ v, TL.holds (ctxOf Γ) v ∧ TL.holds (r1 ++ r2) v ∧ t.const ≤ evalL t.coeffs v :=
  (simplify_ok O hO tie l Γ r h).2.2 hp hvars

end Pacti.C07
