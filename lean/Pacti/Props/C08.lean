import Pacti.Proofs.PolyAlg
import Pacti.Props.C06
/-!
# C08 — merging is the exact conjunction of the two viewpoints (polyhedral contracts)

Only `simplify` is involved, so there is no hypothesis on tactics.
-/
namespace Pacti.C08
open PolyAlg

/-- assumptions = conjunction of both assumptions; under them, guarantees = conjunction of both guarantees -/
theorem merge_exact_poly (O : Oracle) (hO : O.Certified) (tie : PTerm → Bool) (tac : Nat → PTerm → TL → List Var → Bool → Elim.TacticRes)
    (c1 c2 m : Contract PTerm) (h : merge (polyPrims O tie false tac) c1 c2 = .ok m) :
    (∀ v, TL.holds m.a v ↔ TL.holds c1.a v ∧ TL.holds c2.a v) ∧
    (∀ v, TL.holds m.a v → (TL.holds m.g v ↔ TL.holds c1.g v ∧ TL.holds c2.g v)) :=
  Alg.merge_exact PTerm.holds PTerm.vars _ (polyPrims_spec O hO tie false tac rfl) c1 c2 m h

/-- the interface is the union of the interfaces, and the result is well formed -/
theorem merge_iface_poly (O : Oracle) (hO : O.Certified) (tie : PTerm → Bool) (tac : Nat → PTerm → TL → List Var → Bool → Elim.TacticRes)
    (c1 c2 m : Contract PTerm) (h : merge (polyPrims O tie false tac) c1 c2 = .ok m) :
    Pacti.C06.WF PTerm.vars m ∧ (∀ x, x ∈ m.ins ↔ x ∈ c1.ins ∨ x ∈ c2.ins) ∧ (∀ x, x ∈ m.outs ↔ x ∈ c1.outs ∨ x ∈ c2.outs) :=
  Pacti.C06.merge_iface PTerm.vars _ (polyPrims_selects O hO tie false tac) c1 c2 m h

/-- the operands may be given in either order: same meaning, same interface (as sets) -/
theorem merge_comm_sem (O : Oracle) (hO : O.Certified) (tie : PTerm → Bool) (tac : Nat → PTerm → TL → List Var → Bool → Elim.TacticRes)
    (c1 c2 m m' : Contract PTerm) (h : merge (polyPrims O tie false tac) c1 c2 = .ok m)
    (h' : merge (polyPrims O tie false tac) c2 c1 = .ok m') :
    (∀ v, TL.holds m.a v ↔ TL.holds m'.a v) ∧ (∀ v, TL.holds m.a v → (TL.holds m.g v ↔ TL.holds m'.g v)) ∧
    (∀ x, x ∈ m.ins ↔ x ∈ m'.ins) ∧ (∀ x, x ∈ m.outs ↔ x ∈ m'.outs) :=
  Alg.merge_comm (polyPrims_spec O hO tie false tac rfl) h h'

/-- a `ValueError` from merging means the conjunction of the guarantees is empty under the joint assumptions -/
theorem merge_error_infeasible (O : Oracle) (hO : O.Certified) (tie : PTerm → Bool) (tac : Nat → PTerm → TL → List Var → Bool → Elim.TacticRes)
    (c1 c2 : Contract PTerm) (hp1 : TL.Proper c1.g) (hp2 : TL.Proper c2.g) (h : merge (polyPrims O tie false tac) c1 c2 = .error .valueError) :
    ¬ ∃ v, TL.holds (Gen.list_union c1.a c2.a) v ∧ TL.holds (Gen.list_union c1.g c2.g) v := by
  have hs' : Poly.simplify O tie (Gen.list_union c1.g c2.g) (some (Gen.list_union c1.a c2.a)) = .error .valueError :=
    -- `merge` is the constructor on the two unions
    ((Alg.mkContract_error h).resolve_left nofun).2
  rcases Poly.simplify_error O hO tie _ (hp1.union hp2) _ _ hs' with ⟨_, hinf⟩ | he
  · exact hinf
  · cases he

end Pacti.C08
