import Pacti.Proofs.Syntax
import Mathlib.Tactic.NormNum
/-!
# C09 — parsing a constraint string preserves its arithmetic meaning

`Syntax.Expr` is what the grammar parses (as a tree), `Syntax.denote e v` the written relation at the point `v` in
ordinary rational arithmetic with absolute value, and `Syntax.translate nn fold e` the model of the parse actions
(`syntax/grammar.py`, `syntax/data.py`) followed by the serializer's conversion to `PolyhedralTerm`s.  `nn` is
the value `_combine_optional_floats(None, None)` returns and `fold` says whether the parse actions of the constant
arithmetic evaluate a whole chain `a op b op c` or only `a op b`; the instance checked against the implementation on
every run is `Syntax.translateG = translate Gen.combineNoneNone Gen.arithFold`, both read off the source.

The full-strength statement

    theorem translate_sound : translateG e = .ok ts → ∀ v, TL.holds ts v ↔ denote e v

is **false of the pinned code** (`Gen.combineNoneNone = none`, `Gen.arithFold = false`) for two independent reasons:
`translate_unsound_pinned` proves its negation on `|x| + |x| <= 2` (whatever `fold` is) and
`translate_unsound_arith_pinned` / `translate_unsound_arith_only` on `(2*3*4)x <= 1` (`nn = none` / `some 2`).
It is proved for every tree, of every size and nesting depth, for the repaired code (`translate_sound_fixed`:
`nn = some 2`, `fold = true`);
`translate_sound_of_fix` transfers it to `translateG` as soon as the generated constants say the source is repaired,
and `Props/C09Full.lean` states it without hypotheses (that module checks only against a repaired source).
-/
namespace Pacti.C09
open Syntax

/-- **Soundness for the repaired code.**  Whatever tree the grammar accepts, if it is translated at all, the resulting
    inequalities hold at a point exactly when the written relation holds there: signs, multipliers, nested
    parentheses, constant arithmetic, repeated variables, repeated absolute values, chains, equalities. -/
theorem translate_sound_fixed (e : Expr) (ts : TL) (h : translate (some 2) true e = .ok ts) :
    ∀ v, TL.holds ts v ↔ denote e v := by
  intro v
  revert h
  fun_cases translate (some 2) true e
  case case3 l r lhs hl rhs hr =>
    rintro ⟨⟩
    -- `l = r` is `l - r <= 0` and `r - l <= 0`
    rw [TL.holds_cons, TL.holds_singleton, SynTL.holds_sub, SynTL.holds_sub, (Tms.tr_post true l).ok hl rfl v,
      (Tms.tr_post true r).ok hr rfl v, denote, le_antisymm_iff]
  -- a chain, `leq` or `geq`
  case case5 | case7 =>
    intro h
    rw [convert_sound h v]
    exact (moved_post (some 2) true _).ok ‹_› rfl rfl (fun _ _ h => by cases h) v
  all_goals nofun

/-- the same for the instance tied to the source, once the source returns `2.0` for `(None, None)` -/
theorem translate_sound_of_fix (hfix : Gen.combineNoneNone = some 2) (hfold : Gen.arithFold = true) (e : Expr) (ts : TL)
    (h : translateG e = .ok ts) : ∀ v, TL.holds ts v ↔ denote e v := by
  unfold translateG at h
  rw [hfix, hfold] at h
  exact translate_sound_fixed e ts h

/-- the witness: `|x| + |x| <= 2` (`x` is variable 1) -/
def twiceAbs : Expr :=
  .leq [.item (.abs false none (.cons false (.var 1) .nil)), .item (.abs false none (.cons false (.var 1) .nil))]
       [.item (.tm false (.const (.num 2)))] []

/-- what the pinned code makes of it: `x <= 2`, `-x <= 2`, i.e. `|x| <= 2` -/
theorem twiceAbs_pinned (fold : Bool) : translate none fold twiceAbs = .ok [⟨[(1, 1)], 2⟩, ⟨[(1, -1)], 2⟩] := by
  cases fold <;> decide +kernel

/-- **The pinned code is unsound**: with `_combine_optional_floats(None, None) = None` the relation
    `|x| + |x| <= 2` is translated, and at `x = 2` the result holds although the relation does not (`4 ≤ 2`). -/
theorem translate_unsound_pinned (fold : Bool) :
    ∃ e ts v, translate none fold e = .ok ts ∧ ¬ (TL.holds ts v ↔ denote e v) :=
  unsound_at (fun _ => 2) (twiceAbs_pinned fold)
    (by norm_num [TL.holds_cons, TL.holds_nil, PTerm.holds, evalL])
    (by norm_num [denote, twiceAbs, sideDen, SItem.den, Item.den, Tms.den, Tm.den, sgn, kval, Arith.val, chainLe,
      rabs_eq_abs])

/-- the second witness: `(2*3*4)x <= 1` -/
def chainCoef : Expr :=
  .leq [.item (.tm false (.kvar (.mul (.mul (.num 2) (.num 3)) (.num 4)) 1))] [.item (.tm false (.const (.num 1)))] []

/-- **The pinned constant arithmetic is unsound**: whenever parse actions that compute only the first operator of a
    chain turn `(2*3*4)x <= 1` into `6x <= 1` (the `*4` is ignored), the result holds at `x = 1/10` although the
    written `24x <= 1` does not. -/
theorem chainCoef_unsound (nn : Option Rat) (hp : translate nn false chainCoef = .ok [⟨[(1, 6)], 1⟩]) :
    ∃ e ts v, translate nn false e = .ok ts ∧ ¬ (TL.holds ts v ↔ denote e v) :=
  unsound_at (fun _ => 1 / 10) hp
    (by norm_num [TL.holds_cons, TL.holds_nil, PTerm.holds, evalL])
    (by norm_num [denote, chainCoef, sideDen, SItem.den, Item.den, Tm.den, sgn, Arith.val, chainLe])

/-- …for the source as pinned (`nn = none`) -/
theorem translate_unsound_arith_pinned :
    ∃ e ts v, translate none false e = .ok ts ∧ ¬ (TL.holds ts v ↔ denote e v) :=
  chainCoef_unsound none (by decide +kernel)

/-- …and for a source in which only `_combine_optional_floats` has been repaired (`nn = some 2`) -/
theorem translate_unsound_arith_only :
    ∃ e ts v, translate (some 2) false e = .ok ts ∧ ¬ (TL.holds ts v ↔ denote e v) :=
  chainCoef_unsound (some 2) (by decide +kernel)

/-- the same negation, stated for the driver's instance whenever the source still returns `None` -/
theorem translate_unsound_of_pinned
    (hpin : Gen.combineNoneNone = none ∨ (Gen.combineNoneNone = some 2 ∧ Gen.arithFold = false)) :
    ∃ e ts v, translateG e = .ok ts ∧ ¬ (TL.holds ts v ↔ denote e v) := by
  unfold translateG
  rcases hpin with hpin | ⟨h1, h2⟩
  · rw [hpin]
    exact translate_unsound_pinned Gen.arithFold
  · rw [h1, h2]
    exact translate_unsound_arith_only

/-- **Non-convex uses of absolute values are rejected, not translated**: if, after moving everything of some pair of
    adjacent sides to one side (`moved`: `a - b` for `a <= b`, `-a + b` for `a >= b`, equal absolute terms combined),
    some absolute term is left with a coefficient `≤ 0`, the result is the convexity error.  For every `nn`. -/
theorem translate_rejects_nonconvex (nn : Option Rat) (fold : Bool) (e : Expr) (ds : List ATL) (h : moved nn fold e = .ok ds)
    (d : ATL) (hd : d ∈ ds) (a : AbsTerm) (ha : a ∈ d.abs) (c : Rat) (hc : a.coeff = some c) (hle : c ≤ 0) :
    translate nn fold e = .error .convex := by
  have hneg : checkAbs d.abs = false := (checkAbs_false_iff d.abs).mpr ⟨a, ha, c, hc, hle⟩
  cases e with
  | eq l r => cases h; cases hd
  | leq s1 s2 rest | geq s1 s2 rest =>
    rw [translate, h]
    exact (convert_error_iff ds _).mpr ⟨rfl, d, hd, hneg⟩

/-- **The convexity error is raised only then** (the converse of `translate_rejects_nonconvex`): if the translation
    fails with it, everything was moved and some absolute term of some difference has a coefficient `≤ 0`. -/
theorem translate_convex_only_if (nn : Option Rat) (fold : Bool) (e : Expr) (h : translate nn fold e = .error .convex) :
    ∃ ds, moved nn fold e = .ok ds ∧ ∃ d ∈ ds, ∃ a ∈ d.abs, ∃ c, a.coeff = some c ∧ c ≤ 0 := by
  rcases translate_error_inv nn fold e _ h with hz | ⟨_, h⟩
  · cases hz
  · exact h

/-- **Error kinds**: the translation of a tree fails only with the convexity error or with Python's
    `ZeroDivisionError` (constant arithmetic dividing by zero) — for every `nn` and `fold`.  (Feeds C14: the second one is not a
    documented exception.) -/
theorem translate_error_kinds (nn : Option Rat) (fold : Bool) (e : Expr) (k : Err) (h : translate nn fold e = .error k) :
    k = .convex ∨ k = .py "ZeroDivisionError" :=
  (translate_error_inv nn fold e k h).elim .inr fun h => .inl h.1

/-- division by zero is the only way the parse stage fails, and it does fail then -/
theorem arith_div_zero (a b : Arith) (x : Rat) (ha : a.evalW true = .ok x) (hb : b.evalW true = .ok 0) :
    (Arith.div a b).evalW true = .error (.py "ZeroDivisionError") := by
  simp [Arith.evalW, ha, hb, zeroDiv]

/-- with the repaired value the witness is translated to `2x <= 2`, `-2x <= 2` -/
example : translate (some 2) true twiceAbs = .ok [⟨[(1, 2)], 2⟩, ⟨[(1, -2)], 2⟩] := by decide +kernel

/-- `|x| <= |y|` is rejected -/
example : translate (some 2) true
    (.leq [.item (.abs false none (.cons false (.var 1) .nil))] [.item (.abs false none (.cons false (.var 2) .nil))] [])
      = .error .convex := by decide +kernel

/-- `-2(|x| + y) <= 3` is rejected -/
example : translate none false
    (.leq [.group true (some (.num 2)) [.abs false none (.cons false (.var 1) .nil), .tm false (.var 2)]]
      [.item (.tm false (.const (.num 3)))] []) = .error .convex := by decide +kernel

/-- `3 >= |x| >= 1` is rejected at the second pair -/
example : translate none false
    (.geq [.item (.tm false (.const (.num 3)))] [.item (.abs false none (.cons false (.var 1) .nil))]
      [[.item (.tm false (.const (.num 1)))]]) = .error .convex := by decide +kernel

/-- `(1/(2-2)) x = 1` raises `ZeroDivisionError` -/
example : translate none false
    (.eq (.cons false (.kvar (.div (.num 1) (.sub (.num 2) (.num 2))) 1) .nil) (.cons false (.const (.num 1)) .nil))
      = .error (.py "ZeroDivisionError") := by decide +kernel

/-- a nested, chained example is translated: `|y| + 3|y| <= x - 2(x + (1/2)) <= 4` gives
    `x + 4y <= -1`, `x - 4y <= -1`, `-x <= 5` -/
example : translate (some 2) true
    (.leq [.item (.abs false none (.cons false (.var 2) .nil)), .item (.abs false (some (.num 3)) (.cons false (.var 2) .nil))]
          [.item (.tm false (.var 1)),
           .item (.tm true (.kparen (.num 2) (.cons false (.var 1) (.cons false (.const (.div (.num 1) (.num 2))) .nil))))]
          [[.item (.tm false (.const (.num 4)))]])
      = .ok [⟨[(1, 1), (2, 4)], -1⟩, ⟨[(1, 1), (2, -4)], -1⟩, ⟨[(1, -1)], 5⟩] := by decide +kernel

end Pacti.C09
