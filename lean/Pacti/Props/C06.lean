import Pacti.Proofs.Algebra
/-!
# C06 — results are well formed with the prescribed interface; bad interfaces are rejected

All statements are about the interface computations GENERATED from `iocontract.py` (`Gen.compose_iface`,
`Gen.quotient_iface`, `Gen.merge_iface`, `Gen.init_rejects`, `Gen.shares_io_with`) as used by the algebra model;
they are re-proved on every run against what the source says now.  `P` is arbitrary; the only thing asked of it
is that `simplify` returns a selection of its operand (`SimpSelects`, which the polyhedral `simplify` is proved to
do in C07).
-/
namespace Pacti.C06
open Alg
variable {T : Type} [DecidableEq T] (vars : T → List Var) (P : Prims T)

def WF (c : Contract T) : Prop :=
  c.ins.Nodup ∧ c.outs.Nodup ∧ (∀ x ∈ c.ins, x ∉ c.outs) ∧
  (∀ x ∈ varsOf vars c.a, x ∈ c.ins) ∧ (∀ x ∈ varsOf vars c.g, x ∈ c.ins ∨ x ∈ c.outs)

/-- well-formedness of constructor ARGUMENTS, as the property states it -/
def ArgsWF (a g : List T) (ins outs : List Var) : Prop :=
  ins.Nodup ∧ outs.Nodup ∧ (∀ x ∈ ins, x ∉ outs) ∧ (∀ x ∈ varsOf vars a, x ∈ ins) ∧ (∀ x ∈ varsOf vars g, x ∈ ins ∨ x ∈ outs)

def SimpSelects (P : Prims T) : Prop := ∀ s l Γ r, P.simplify s l Γ = .ok r → ∀ t ∈ r, t ∈ l

theorem init_rejects_iff (a g : List T) (ins outs : List Var) :
    (Gen.init_rejects (varsOf vars a) (varsOf vars g) ins outs).any id = false ↔ ArgsWF vars a g ins outs := by
  unfold Gen.init_rejects ArgsWF
  -- each flag of `Gen.init_rejects` is the negation of one conjunct of `ArgsWF`
  simp only [List.any_cons, List.any_nil, id, Bool.or_false, Bool.or_eq_false_iff, Bool.not_eq_eq_eq_not, Bool.not_false,
    decide_eq_true_eq, Gen.list_intersection_isEmpty_iff, Gen.list_diff_isEmpty_iff, Gen.mem_list_union]

/-- the constructor accepts exactly the well-formed arguments (when it does not accept, and the arguments are
    ill formed, the error is `IncompatibleArgsError`) -/
theorem mkContract_rejects (a g : List T) (ins outs : List Var) (s : Bool) (h : ¬ ArgsWF vars a g ins outs) :
    mkContract vars P a g ins outs s = .error .incompatibleArgs := by
  rw [mkContract, if_pos (Bool.of_not_eq_false (mt (init_rejects_iff vars a g ins outs).mp h))]

/-- every contract the constructor returns is well formed -/
theorem mkContract_ok_wf (hS : SimpSelects P) (a g : List T) (ins outs : List Var) (s : Bool) (c : Contract T)
    (h : mkContract vars P a g ins outs s = .ok c) : WF vars c ∧ c.ins = ins ∧ c.outs = outs ∧ c.a = a := by
  obtain ⟨hr, ha, hi, ho, hg⟩ := mkContract_ok h
  obtain ⟨h1, h2, h3, h4, h5⟩ := (init_rejects_iff vars a g ins outs).mp hr
  refine ⟨?_, hi, ho, ha⟩
  rw [WF, ha, hi, ho]
  refine ⟨h1, h2, h3, h4, fun x hx => h5 x ?_⟩
  split at hg
  · obtain ⟨t, ht, hxt⟩ := (mem_varsOf vars _ x).mp hx
    exact (mem_varsOf vars _ x).mpr ⟨t, hS _ _ _ _ hg t ht, hxt⟩
  · rwa [hg] at hx

/-- interface prescribed for a composition: inputs are all inputs not produced by the other contract; outputs are
    all outputs except those the other contract consumes, plus the kept ones; and the result is well formed -/
theorem compose_iface (hS : SimpSelects P) (c1 c2 c : Contract T) (keep : List Var) (simp : Bool) (ord : List Nat)
    (h : compose vars P c1 c2 keep simp ord = .ok c) :
    WF vars c ∧
    (∀ x, x ∈ c.ins ↔ (x ∈ c1.ins ∨ x ∈ c2.ins) ∧ ¬ (x ∈ c1.outs ∧ x ∈ c2.ins) ∧ ¬ (x ∈ c1.ins ∧ x ∈ c2.outs)) ∧
    (∀ x, x ∈ c.outs ↔ ((x ∈ c1.outs ∨ x ∈ c2.outs) ∧ ¬ (x ∈ c1.outs ∧ x ∈ c2.ins) ∧ ¬ (x ∈ c1.ins ∧ x ∈ c2.outs)) ∨ x ∈ keep) := by
  obtain ⟨_, hmk⟩ := compose_ok_mk h
  obtain ⟨hwf, hi, ho, -⟩ := mkContract_ok_wf vars P hS _ _ _ _ _ _ hmk
  rw [hi, ho]
  exact ⟨hwf, fun _ => Gen.mem_compose_inputvars, fun _ => Gen.mem_compose_outputvars⟩

/-- requests without meaning are refused: a shared output, keeping a non-output, feedback onto an input that an
    assumption constrains -/
theorem compose_rejects (c1 c2 : Contract T) (keep : List Var) (simp : Bool) (ord : List Nat)
    (h : (∃ x, x ∈ c1.outs ∧ x ∈ c2.outs) ∨ (∃ x ∈ keep, x ∉ c1.outs ∧ x ∉ c2.outs) ∨
         ((∃ x, x ∈ c1.ins ∧ x ∈ c2.outs) ∧ (∃ x, x ∈ c2.ins ∧ x ∈ c1.outs) ∧
            ((∃ x, x ∈ c2.outs ∧ x ∈ varsOf vars c1.a) ∨ (∃ x, x ∈ c1.outs ∧ x ∈ varsOf vars c2.a)))) :
    compose vars P c1 c2 keep simp ord = .error .incompatibleArgs := by
  unfold compose
  simp only
  rcases h with h | h | h
  · rw [if_pos (Gen.compose_reject_io.mpr h), ite_self]
  · rw [if_pos (Gen.compose_reject_keep.mpr h)]
  · rw [composeAssumptions, if_pos (Gen.compose_branch_feedback.mpr h), ite_self, ite_self]

theorem quotient_iface (hS : SimpSelects P) (c c1 q : Contract T) (addl : List Var) (simp : Bool) (ord : List Nat)
    (h : quotient vars P c c1 addl simp ord = .ok q) :
    WF vars q ∧
    (∀ x, x ∈ q.ins ↔ (x ∈ c.ins ∧ x ∉ c1.ins) ∨ (x ∈ c1.outs ∧ x ∉ c.outs) ∨ x ∈ addl) ∧
    (∀ x, x ∈ q.outs ↔ (x ∈ c.outs ∧ x ∉ c1.outs) ∨ (x ∈ c1.ins ∧ x ∉ c.ins)) := by
  obtain ⟨_, _, _, -, -, -, -, hmk⟩ := quotient_ok h
  obtain ⟨hwf, hi, ho, -⟩ := mkContract_ok_wf vars P hS _ _ _ _ _ _ hmk
  rw [hi, ho]
  exact ⟨hwf, fun _ => Gen.mem_quotient_inputvars, fun _ => Gen.mem_quotient_outputvars⟩

/-- a quotient output that the divisor reads, or additional inputs that are neither dividend inputs nor divisor
    outputs, are refused -/
theorem quotient_rejects (c c1 : Contract T) (addl : List Var) (simp : Bool) (ord : List Nat)
    (h : (∃ x, x ∈ c.outs ∧ x ∉ c1.outs ∧ x ∈ c1.ins) ∨ (∃ x ∈ addl, x ∉ c1.outs ∧ x ∉ c.ins)) :
    quotient vars P c c1 addl simp ord = .error .incompatibleArgs := by
  unfold quotient
  simp only
  rcases h with ⟨x, h1, h2, h3⟩ | h
  · rw [if_pos (Gen.quotient_reject_io.mpr ⟨x, ⟨h1, h2⟩, h3⟩)]
  · rw [if_pos (Gen.quotient_reject_additional.mpr h), ite_self]

theorem merge_iface (hS : SimpSelects P) (c1 c2 m : Contract T) (h : merge vars P c1 c2 = .ok m) :
    WF vars m ∧ (∀ x, x ∈ m.ins ↔ x ∈ c1.ins ∨ x ∈ c2.ins) ∧ (∀ x, x ∈ m.outs ↔ x ∈ c1.outs ∨ x ∈ c2.outs) := by
  obtain ⟨hwf, hi, ho, -⟩ := mkContract_ok_wf vars P hS _ _ _ _ _ _ h
  rw [hi, ho]
  exact ⟨hwf, fun _ => Gen.mem_list_union, fun _ => Gen.mem_list_union⟩

/-- refinement across different interfaces raises `IncompatibleArgsError` -/
theorem refines_rejects (c d : Contract T) (h : ¬ ((∀ x, x ∈ c.ins ↔ x ∈ d.ins) ∧ (∀ x, x ∈ c.outs ↔ x ∈ d.outs))) :
    refinesC P c d = .error .incompatibleArgs := by
  rw [refinesC, if_pos]
  rwa [Bool.not_eq_true', ← Bool.not_eq_true, Gen.shares_io_with_iff]

theorem copy_iface (hS : SimpSelects P) (c c' : Contract T) (h : copy vars P c = .ok c') :
    WF vars c' ∧ c'.ins = c.ins ∧ c'.outs = c.outs := by
  obtain ⟨hwf, hi, ho, _⟩ := mkContract_ok_wf vars P hS _ _ _ _ _ _ h
  exact ⟨hwf, hi, ho⟩

/-- a renaming that would make a variable both input and output is refused -/
theorem rename_rejects (ren : T → Var → Var → T) (c : Contract T) (s t : Var) (hne : s ≠ t)
    (h : (s ∈ c.ins ∧ t ∈ c.outs) ∨ (s ∈ c.outs ∧ t ∈ c.ins ∧ s ∉ c.ins)) :
    rename vars P ren c s t = .error .incompatibleArgs := by
  unfold rename
  rcases h with ⟨h1, h2⟩ | ⟨h1, h2, h3⟩
  · rw [if_neg hne, if_pos h1, if_pos h2]
  · rw [if_neg hne, if_neg h3, if_pos h1, if_pos h2]

/-- renaming an input: the old name is replaced by the new one (or just removed if the new one is already an
    input); outputs untouched; result well formed.  (The output case is symmetric, `rename_iface_out`.) -/
theorem rename_iface_in (hS : SimpSelects P) (ren : T → Var → Var → T) (c c' : Contract T) (s t : Var) (hne : s ≠ t)
    (hwf : WF vars c) (hs : s ∈ c.ins) (h : rename vars P ren c s t = .ok c') :
    WF vars c' ∧ c'.outs = c.outs ∧ (∀ x, x ∈ c'.ins ↔ (x ∈ c.ins ∧ x ≠ s) ∨ x = t) := by
  obtain ⟨hwf', hi, ho, -⟩ := mkContract_ok_wf vars P hS _ _ _ _ _ _ (rename_ok_in hne hs h)
  rw [hi]
  exact ⟨hwf', ho, fun x => mem_renamed hne hwf.1 hs⟩

theorem rename_iface_out (hS : SimpSelects P) (ren : T → Var → Var → T) (c c' : Contract T) (s t : Var) (hne : s ≠ t)
    (hwf : WF vars c) (hs : s ∈ c.outs) (h : rename vars P ren c s t = .ok c') :
    WF vars c' ∧ c'.ins = c.ins ∧ (∀ x, x ∈ c'.outs ↔ (x ∈ c.outs ∧ x ≠ s) ∨ x = t) := by
  obtain ⟨-, houts, hdisj, -⟩ := hwf
  obtain ⟨hwf', hi, ho, -⟩ := mkContract_ok_wf vars P hS _ _ _ _ _ _ (rename_ok_out hne (hdisj s · hs) hs h)
  rw [ho]
  exact ⟨hwf', hi, fun x => mem_renamed hne houts hs⟩

/-- renaming an absent variable changes nothing of the interface -/
theorem rename_absent (hS : SimpSelects P) (ren : T → Var → Var → T) (c c' : Contract T) (s t : Var)
    (hs : s ∉ c.ins ∧ s ∉ c.outs) (h : rename vars P ren c s t = .ok c') :
    c'.ins = c.ins ∧ c'.outs = c.outs ∧ c'.a = c.a := by
  rw [rename_eq_mkContract (.inr hs)] at h
  exact (mkContract_ok_wf vars P hS _ _ _ _ _ _ h).2

end Pacti.C06
