import Pacti.Proofs.Plots
/-!
# C18 — plot vertices are exactly the corners of the plotted slice

`constraints_to_vertices` = glue (`Plots.plotSystem`, transcribed from the code down to the two-column system `H`
handed to `_get_bounding_vertices`) + a geometric engine (Chebyshev LP, Qhull, 4-LP fallback, `atan2` sort) that
is an *oracle*: its answer is accepted only by `Plots.checkVertices H pts`.

In this module the coefficient list of a term is the Python dict in insertion order (see `Model/Plots.lean`);
`hdict` below is the dict invariant "keys are distinct".  `override v vals` is the valuation that reads the given
values first (first binding wins) and `v` elsewhere.
-/
namespace Pacti.C18
open Plots

/-- **The glue hands the engine exactly the plotted slice.**  If `plotSystem` succeeds with `H`, then a point
    `(v x, v y)` satisfies every row of `H` iff the constraint list holds at the given values with `x ↦ v x`,
    `y ↦ v y`, and the point lies within the axis limits.  (Every variable of `l` is `x`, `y` or has a value, and
    `x`, `y` have none — see `glue_errors` — so `override v vals` *is* "`vals` with `x ↦ v x`, `y ↦ v y`".)
    Both column orders of `termlist_to_polytope` are covered: the proof goes through the column swap. -/
theorem glue_sem (l : TL) (x y : Var) (vals : List (Var × Rat)) (xl yl : Rat × Rat) (H : List HalfPlane)
    (hdict : ∀ t ∈ l, t.vars.Nodup) (h : plotSystem l x y vals xl yl = .ok H) (v : Val) :
    (∀ hp ∈ H, hp.holds (v x, v y)) ↔
      TL.holds l (override v vals) ∧ xl.1 ≤ v x ∧ v x ≤ xl.2 ∧ yl.1 ≤ v y ∧ v y ≤ yl.2 := by
  obtain ⟨hxy, g, plotTl, hs, R, rfl⟩ := plotSystem_ok hdict h
  have e1 : (∀ hp ∈ plotTl.map (hpOf x y), hp.holds (v x, v y)) ↔ TL.holds plotTl v := by
    rw [List.forall_mem_map]
    exact forall₂_congr fun t ht => hpOf_holds hxy (fun z hz => R.sub z (TL.mem_vars.mpr ⟨t, ht, hz⟩)) v
  rw [e1, substituteIn_holds hs, TL.holds_union, boundary_holds, override_of_not_mem g.x_free,
    override_of_not_mem g.y_free]

/-- the same, spelled with explicit coordinates -/
theorem glue_sem_point (l : TL) (x y : Var) (vals : List (Var × Rat)) (xl yl : Rat × Rat) (H : List HalfPlane)
    (hdict : ∀ t ∈ l, t.vars.Nodup) (h : plotSystem l x y vals xl yl = .ok H) (v : Val) (px py : Rat) :
    (∀ hp ∈ H, hp.holds (px, py)) ↔
      TL.holds l (override (Function.update (Function.update v x px) y py) vals) ∧
        xl.1 ≤ px ∧ px ≤ xl.2 ∧ yl.1 ≤ py ∧ py ≤ yl.2 := by
  have hxy : x ≠ y := (plotSystem_ok hdict h).1
  have := glue_sem l x y vals xl yl H hdict h (Function.update (Function.update v x px) y py)
  rwa [Function.update_self, Function.update_of_ne hxy, Function.update_self] at this

/-- **The glue raises exactly the documented `ValueError`s** (for two distinct plot variables): the only error
    is `ValueError`, and it is raised iff `x` or `y` is given a value, or a constrained variable other than `x`,
    `y` has no value, or some constraint becomes a constant row that is violated. -/
theorem glue_errors (l : TL) (x y : Var) (vals : List (Var × Rat)) (xl yl : Rat × Rat) (hxy : x ≠ y) (e : Err) :
    plotSystem l x y vals xl yl = .error e ↔
      e = .valueError ∧
        (x ∈ vals.map (·.1) ∨ y ∈ vals.map (·.1) ∨
         (∃ z ∈ l.vars, z ≠ x ∧ z ≠ y ∧ z ∉ vals.map (·.1)) ∨
         (∃ t ∈ l, (substAll t vals).vars = [] ∧ (substAll t vals).const < 0)) := by
  rw [plotSystem_error_iff hxy, not_guards_iff, or_assoc, or_assoc]

/-- a row that became constant and negative is violated by *every* completion of the given values: the
    `ValueError` of `_substitute_in_termlist` is raised only for an empty slice -/
theorem violated_row_unsat (t : PTerm) (vals : List (Var × Rat))
    (hv : (substAll t vals).vars = []) (hc : (substAll t vals).const < 0) (v : Val) :
    ¬ t.holds (override v vals) := by
  rw [← substAll_holds, PTerm.holds_of_vars_nil _ hv]
  exact not_le.mpr hc

/-- …and a constant row that is dropped is satisfied by every completion -/
theorem dropped_row_valid (t : PTerm) (vals : List (Var × Rat))
    (hv : (substAll t vals).vars = []) (hc : ¬ (substAll t vals).const < 0) (v : Val) :
    t.holds (override v vals) := by
  rw [← substAll_holds, PTerm.holds_of_vars_nil _ hv]
  exact not_lt.mp hc

/-- the same two plot variables given twice are rejected with the undocumented `IndexError` of the column swap
    (recorded, not part of the property: the property speaks of two plot variables) -/
example : plotSystem [⟨[(1, 1)], 4⟩] 1 1 [] (-5, 5) (-5, 5) = .error (.py "IndexError") := by decide +kernel

/-- **What a corner is**: a point of the polygon at which two non-parallel rows are tight. -/
theorem mem_corners_iff (H : List HalfPlane) (p : Rat × Rat) :
    p ∈ corners H ↔ (∀ h ∈ H, h.holds p) ∧
      ∃ h₁ ∈ H, ∃ h₂ ∈ H, ¬ HalfPlane.parallel h₁ h₂ ∧ h₁.tight p ∧ h₂.tight p := by
  unfold corners
  rw [mem_dedupP]
  simp only [List.mem_filter, List.mem_map, decide_eq_true_eq, feasible_iff]
  constructor
  · rintro ⟨⟨⟨h1, h2⟩, ⟨hm, hnp⟩, rfl⟩, hf⟩
    obtain ⟨m1, m2⟩ := mem_of_mem_pairs hm
    have := (HalfPlane.tight_iff_eq_inter hnp).mpr rfl
    exact ⟨hf, h1, m1, h2, m2, hnp, this.1, this.2⟩
  · rintro ⟨hf, h1, m1, h2, m2, hnp, t1, t2⟩
    refine ⟨?_, hf⟩
    have hne : h1 ≠ h2 := by
      rintro rfl
      exact hnp (HalfPlane.det_self h1)
    rcases mem_pairs_of_ne m1 m2 hne with hm | hm
    · exact ⟨(h1, h2), ⟨hm, hnp⟩, ((HalfPlane.tight_iff_eq_inter hnp).mp ⟨t1, t2⟩).symm⟩
    · have hnp' : ¬ HalfPlane.parallel h2 h1 := by
        unfold HalfPlane.parallel at hnp ⊢
        rw [HalfPlane.det_swap]
        simpa using hnp
      exact ⟨(h2, h1), ⟨hm, hnp'⟩, ((HalfPlane.tight_iff_eq_inter hnp').mp ⟨t2, t1⟩).symm⟩

/-- each corner is listed once -/
theorem corners_nodup (H : List HalfPlane) : (corners H).Nodup := dedupP_nodup

/-- **A corner is an extreme point**: it is not a proper convex combination of two points of the polygon
    (other than itself). -/
theorem corner_is_extreme (H : List HalfPlane) (p : Rat × Rat) (hp : p ∈ corners H)
    (u w : Rat × Rat) (hu : ∀ h ∈ H, h.holds u) (hw : ∀ h ∈ H, h.holds w)
    (t : Rat) (ht0 : 0 < t) (ht1 : t < 1)
    (hmix : p = (t * u.1 + (1 - t) * w.1, t * u.2 + (1 - t) * w.2)) : u = p ∧ w = p := by
  obtain ⟨_, h1, m1, h2, m2, hnp, t1, t2⟩ := (mem_corners_iff H p).mp hp
  -- both rows tight at `p` are tight at `u` and at `w`, and two non-parallel lines meet once
  subst hmix
  obtain ⟨u1, w1⟩ := HalfPlane.tight_of_tight_mix (hu h1 m1) (hw h1 m1) ht0 ht1 t1
  obtain ⟨u2, w2⟩ := HalfPlane.tight_of_tight_mix (hu h2 m2) (hw h2 m2) ht0 ht1 t2
  exact ⟨HalfPlane.eq_of_tight hnp ⟨u1, u2⟩ ⟨t1, t2⟩, HalfPlane.eq_of_tight hnp ⟨w1, w2⟩ ⟨t1, t2⟩⟩

/-- **The checker of the engine's answer is sound and complete**: it accepts `pts` iff the points are exactly
    the corners (none extra, none missing) and are listed in (cyclic) angular order about their centroid. -/
theorem checkVertices_sound_complete (H : List HalfPlane) (pts : List (Rat × Rat)) :
    checkVertices H pts = true ↔
      (∀ p, p ∈ pts ↔ p ∈ corners H) ∧ angularOrder (centroid pts) pts = true := by
  unfold checkVertices
  simp only [Bool.and_eq_true, List.all_eq_true, decide_eq_true_eq, iff_def (a := _ ∈ pts), forall_and]

/-- the reported failing clause is consistent with the verdict -/
theorem checkVerticesWhy_none_iff (H : List HalfPlane) (pts : List (Rat × Rat)) :
    checkVerticesWhy H pts = none ↔ checkVertices H pts = true := by
  unfold checkVerticesWhy checkVertices
  -- a truth table over the three tests
  generalize (pts.all fun p => decide (p ∈ corners H)) = A
  generalize ((corners H).all fun c => decide (c ∈ pts)) = B
  generalize angularOrder (centroid pts) pts = C
  cases A <;> cases B <;> cases C <;> decide

/-- **End to end**: an answer accepted for the system produced by the glue consists exactly of the points of
    the slice (constraints at the given values, within the limits) at which two non-parallel rows are tight;
    in particular every returned point satisfies all constraints and no corner is missing. -/
theorem accepted_answer_is_slice_corners (l : TL) (x y : Var) (vals : List (Var × Rat)) (xl yl : Rat × Rat)
    (H : List HalfPlane) (hdict : ∀ t ∈ l, t.vars.Nodup) (h : plotSystem l x y vals xl yl = .ok H)
    (pts : List (Rat × Rat)) (hc : checkVertices H pts = true) (v : Val) (p : Rat × Rat) (hp : p ∈ pts) :
    TL.holds l (override (Function.update (Function.update v x p.1) y p.2) vals) ∧
      xl.1 ≤ p.1 ∧ p.1 ≤ xl.2 ∧ yl.1 ≤ p.2 ∧ p.2 ≤ yl.2 := by
  have hcor := ((checkVertices_sound_complete H pts).mp hc).1 p |>.mp hp
  have hf := ((mem_corners_iff H p).mp hcor).1
  exact (glue_sem_point l x y vals xl yl H hdict h v p.1 p.2).mp hf

/-- **No corner means no point** (converse of "a corner is a point of the polygon"): a polygon that is bounded
    in every direction and has a point has a corner.  Slide the point along `(1,0)` until a row stops it, then
    along that row's line until a second, necessarily non-parallel, row stops it. -/
theorem corners_ne_nil_of_feasible (H : List HalfPlane) (hb : Bounded H) (p : Rat × Rat)
    (hp : ∀ h ∈ H, h.holds p) : corners H ≠ [] := by
  obtain ⟨t1, -, h1, m1, hpos1, ht1, hf1⟩ := slide (1, 0) hp (hb (1, 0) (by simp))
  generalize (p.1 + t1 * ((1, 0) : Rat × Rat).1, p.2 + t1 * ((1, 0) : Rat × Rat).2) = q at ht1 hf1
  have ha : 0 < h1.a := by simpa [dot] using hpos1
  have hd2 : ((-h1.b, h1.a) : Rat × Rat) ≠ (0, 0) := fun e => ha.ne' (Prod.ext_iff.mp e).2
  obtain ⟨t2, -, h2, m2, hpos2, ht2, hf2⟩ := slide (-h1.b, h1.a) hf1 (hb _ hd2)
  rw [dot_perp] at hpos2
  have hnp : ¬ HalfPlane.parallel h1 h2 := hpos2.ne'
  -- moving along the line of `h1` keeps it tight
  have ht1' : h1.tight (q.1 + t2 * (-h1.b, h1.a).1, q.2 + t2 * (-h1.b, h1.a).2) := by
    unfold HalfPlane.tight at ht1 ⊢
    rw [lhs_move, ht1, dot_perp, HalfPlane.det_self, mul_zero, add_zero]
  have hq := (mem_corners_iff H _).mpr ⟨hf2, h1, m1, h2, m2, hnp, ht1', ht2⟩
  intro e
  rw [e] at hq
  cases hq

/-- **`ValueError` for an empty slice, and only then**: for the system produced by the glue (it always contains
    the four limit rows, hence is bounded), "no corner" — the condition under which the check demands
    `ValueError` from the engine — holds iff no point satisfies the constraints at the given values within the
    limits. -/
theorem slice_empty_iff_no_corner (l : TL) (x y : Var) (vals : List (Var × Rat)) (xl yl : Rat × Rat)
    (H : List HalfPlane) (hdict : ∀ t ∈ l, t.vars.Nodup) (h : plotSystem l x y vals xl yl = .ok H) :
    corners H = [] ↔
      ¬ ∃ v : Val, TL.holds l (override v vals) ∧ xl.1 ≤ v x ∧ v x ≤ xl.2 ∧ yl.1 ≤ v y ∧ v y ≤ yl.2 := by
  constructor
  · rintro hc ⟨v, hv⟩
    exact corners_ne_nil_of_feasible H (plotSystem_bounded hdict h) (v x, v y)
      ((glue_sem l x y vals xl yl H hdict h v).mpr hv) hc
  · intro hn
    by_contra hc
    obtain ⟨p, hp⟩ := List.exists_mem_of_ne_nil _ hc
    have hxy : x ≠ y := (plotSystem_ok hdict h).1
    refine hn ⟨Function.update (Function.update (fun _ => 0) x p.1) y p.2, ?_⟩
    rw [← glue_sem l x y vals xl yl H hdict h, Function.update_self, Function.update_of_ne hxy, Function.update_self]
    exact ((mem_corners_iff H p).mp hp).1

/-! The angular comparator (class of the direction, then cross product) is a total preorder, so the
    consecutive test `sortedFrom` means "sorted".  Its identification with the order of the float `atan2` keys
    is validated by the correspondence run, not proved. -/

theorem angLe_total (d e : Rat × Rat) : angLe d e = true ∨ angLe e d = true := by
  rw [angLe_iff, angLe_iff, cross_antisymm d e]
  rcases Nat.lt_trichotomy (angClass d) (angClass e) with h | h | h
  · exact Or.inl (Or.inl h)
  · rcases le_total 0 (cross d e) with hc | hc
    · exact Or.inl (Or.inr ⟨h, hc⟩)
    · exact Or.inr (Or.inr ⟨h.symm, neg_nonneg.mpr hc⟩)
  · exact Or.inr (Or.inl h)

theorem angLe_trans (d e f : Rat × Rat) (h1 : angLe d e = true) (h2 : angLe e f = true) : angLe d f = true := by
  rw [angLe_iff] at *
  rcases h1 with h1 | ⟨h1, c1⟩
  · rcases h2 with h2 | ⟨h2, _⟩
    · exact Or.inl (lt_trans h1 h2)
    · exact Or.inl (h2 ▸ h1)
  · rcases h2 with h2 | ⟨h2, c2⟩
    · exact Or.inl (h1 ▸ h2)
    · exact Or.inr ⟨h1.trans h2, cross_trans h1 h2 c1 c2⟩

theorem sortedFrom_sorted (c : Rat × Rat) (l : List (Rat × Rat)) (h : sortedFrom c l = true) :
    l.Pairwise (fun p q => angLe (dir c p) (dir c q) = true) := by
  induction l with
  | nil => exact List.Pairwise.nil
  | cons p r ih =>
    cases r with
    | nil => simp
    | cons q r' =>
      simp only [sortedFrom, Bool.and_eq_true] at h
      have ihq' := ih h.2
      have ihq := List.pairwise_cons.mp ihq'
      rw [List.pairwise_cons]
      refine ⟨?_, ihq'⟩
      intro z hz
      rcases List.mem_cons.mp hz with rfl | hz'
      · exact h.1
      · exact angLe_trans _ _ _ h.1 (ihq.1 z hz')

/-- a triangle whose first term lists `y` before `x` (column swap): `2x + y ≤ 4, x ≥ 0, y ≥ 0` in the box
    `[-5,5]²`, with an extra variable `3` fixed to `1` -/
example : plotSystem [⟨[(2, 1), (1, 2), (3, 1)], 5⟩, ⟨[(1, -1)], 0⟩, ⟨[(2, -1)], 0⟩] 1 2 [(3, 1)] (-5, 5) (-5, 5)
    = .ok [⟨2, 1, 4⟩, ⟨-1, 0, 0⟩, ⟨0, -1, 0⟩, ⟨1, 0, 5⟩, ⟨-1, 0, 5⟩, ⟨0, 1, 5⟩, ⟨0, -1, 5⟩] := by decide +kernel
example : corners [⟨2, 1, 4⟩, ⟨-1, 0, 0⟩, ⟨0, -1, 0⟩, ⟨1, 0, 5⟩, ⟨-1, 0, 5⟩, ⟨0, 1, 5⟩, ⟨0, -1, 5⟩]
    = [(0, 4), (2, 0), (0, 0)] := by decide +kernel
example : checkVertices [⟨2, 1, 4⟩, ⟨-1, 0, 0⟩, ⟨0, -1, 0⟩, ⟨1, 0, 5⟩, ⟨-1, 0, 5⟩, ⟨0, 1, 5⟩, ⟨0, -1, 5⟩]
    [(0, 0), (2, 0), (0, 4)] = true := by decide +kernel
example : checkVertices [⟨2, 1, 4⟩, ⟨-1, 0, 0⟩, ⟨0, -1, 0⟩, ⟨1, 0, 5⟩, ⟨-1, 0, 5⟩, ⟨0, 1, 5⟩, ⟨0, -1, 5⟩]
    [(2, 0), (0, 0), (0, 4)] = false := by decide +kernel
example : checkVertices [⟨2, 1, 4⟩, ⟨-1, 0, 0⟩, ⟨0, -1, 0⟩, ⟨1, 0, 5⟩, ⟨-1, 0, 5⟩, ⟨0, 1, 5⟩, ⟨0, -1, 5⟩]
    [(0, 0), (2, 0)] = false := by decide +kernel
example : plotSystem [⟨[(3, 1)], 0⟩] 1 2 [(3, 1)] (-5, 5) (-5, 5) = .error .valueError := by decide +kernel
/-- an empty slice: `x + y ≤ -11` inside the box has no corner -/
example : (plotSystem [⟨[(1, 1), (2, 1)], -11⟩] 1 2 [] (-5, 5) (-5, 5)).map corners = .ok [] := by decide +kernel
/-- a degenerate slice: `x + y ≤ -10` touches the box in the single point `(-5,-5)` -/
example : (plotSystem [⟨[(1, 1), (2, 1)], -10⟩] 1 2 [] (-5, 5) (-5, 5)).map corners = .ok [(-5, -5)] := by decide +kernel

end Pacti.C18
