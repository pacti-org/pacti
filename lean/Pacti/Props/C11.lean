import Pacti.Proofs.Eval
import Pacti.Proofs.Refine
/-!
# C11 — behaviour membership and emptiness agree with exact arithmetic

`valOf b` is the valuation given by the behaviour `b`; `O` is any LP oracle whose answers carry certificates accepted
by the proved checkers (`checkedOracle_certified` shows the driver's oracle is one, for every underlying solver).
-/
namespace Pacti.C11
open Poly

/-- A behaviour assigning every constrained variable is contained exactly when it satisfies every
    inequality (boundary points included: `holds` is `≤`). -/
theorem contains_iff (l : TL) (b : List (Var × Rat)) (hcov : ∀ x ∈ l.vars, x ∈ b.map (·.1)) :
    containsBehavior l b = .ok true ↔ TL.holds l (valOf b) := by
  obtain ⟨c, e, hc⟩ := containsBehavior_cov l b hcov
  rw [e, ← hc, Except.ok.injEq]

/-- …and is reported not contained (not an error) when it violates one. -/
theorem contains_false_iff (l : TL) (b : List (Var × Rat)) (hcov : ∀ x ∈ l.vars, x ∈ b.map (·.1)) :
    containsBehavior l b = .ok false ↔ ¬ TL.holds l (valOf b) := by
  obtain ⟨c, e, hc⟩ := containsBehavior_cov l b hcov
  rw [e, ← hc, Except.ok.injEq, Bool.not_eq_true]

/-- `ValueError` exactly when a constrained variable is left unassigned. -/
theorem contains_err_iff (l : TL) (b : List (Var × Rat)) :
    (∃ x ∈ l.vars, x ∉ b.map (·.1)) ↔ containsBehavior l b = .error .valueError :=
  ⟨fun h => (containsBehavior_error l b).mpr ⟨rfl, h⟩, fun h => ((containsBehavior_error l b).mp h).2⟩

/-- A list is reported empty exactly when no behaviour satisfies it — also when some or all of its rows are
    variable-free (`0 ≤ k`), no hypothesis `Proper`.  Checks only against a source whose `is_polytope_empty` answers a
    matrix without columns by the signs of the constants (`Gen.emptyNoColsBySign`, read off the source on every run:
    `rfl` below). -/
theorem isEmpty_iff (O : Oracle) (hO : O.Certified) (l : TL) (e : Bool)
    (h : isEmpty O l = .ok e) : e = true ↔ ¬ ∃ v, TL.holds l v := by
  obtain ⟨h1, h2⟩ := isEmpty_ok O hO.toPresolveAmbiguous l e h
  cases e
  · exact ⟨nofun, fun hn => absurd (h2 rfl rfl) hn⟩
  · exact ⟨fun _ => h1 rfl, fun _ => rfl⟩

/-- Consistency with refinement: a behaviour contained in a list is contained in everything that list refines. -/
theorem contains_mono (O : Oracle) (hO : O.Certified) (l r : TL) (b : List (Var × Rat))
    (hr : ∀ x ∈ r.vars, x ∈ b.map (·.1))
    (hc : containsBehavior l b = .ok true) (href : refinesTL O l r = .ok .yes) :
    containsBehavior r b = .ok true := by
  have hl : ∀ x ∈ l.vars, x ∈ b.map (·.1) := by
    intro x hx
    by_contra hn
    have := (contains_err_iff l b).mp ⟨x, hx, hn⟩
    rw [this] at hc
    cases hc
  rw [contains_iff r b hr]
  exact refinesTL_yes O hO l r href _ ((contains_iff l b hl).mp hc)

/-- non-vacuity: the hypotheses are met by a concrete list and behaviour -/
example : containsBehavior [⟨[(1, 2)], 4⟩] [(1, 2)] = .ok true := by decide +kernel
example : containsBehavior [⟨[(1, 2)], 4⟩] [(1, (2 : Rat) + 1 / 1048576)] = .ok false := by decide +kernel

end Pacti.C11
