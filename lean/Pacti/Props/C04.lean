import Pacti.Proofs.Elim
import Pacti.Proofs.Tactic4
import Pacti.Proofs.Tactic3
/-!
# C04 — variable elimination is implication-preserving for every tactic order

`Elim.elimRefine / elimRelax / transform / transformTerm / tactic k` model `elim_vars_by_refining`,
`elim_vars_by_relaxing`, `_transform`, `_transform_term` and `TACTICS[k]`.  A tactic's outcome is
`.ok (some r)` (transformed), `.ok none` / `.error .valueError` (declines).

The loop theorems are stated for an ARBITRARY tactic table `tac` and ask soundness only of the tactics that occur
in the order (`TacSound tac k`): they hold for every list length, every context, every order, both flags.
`driver_tactics_sound` discharges `TacSound` for EVERY entry of the real table (tactics 1–6; any other number is a
`KeyError`), so `elimRefine_sound_real` / `elimRelax_sound_real` are the property for every tactic order.

Two facts are read off the source by the translator: the auxiliary variable of tactic 3 clashes with no variable in use
(`tactic3_fresh_ok`), and `isolate_variable` gives the constant the sign −1 (`isolate_sign_ok`, needed by tactic 4).
Tactics 2 and 5 are stated on a certified LP oracle.

Tactics 1–4 and 6 establish more than `TacSound`: wherever the context holds, the expression of the result lies above
(refining) / below (relaxing) that of the term (`Elim.Gains`, `Proofs/Expr.lean`).  Tactic 5 is the same context
reduction with rows of unknown sign, kept sound by its guard alone.
-/
namespace Pacti.C04
open Elim

/-- refining: the result, in the context, implies every original constraint -/
theorem transform_refine_sound (O : Oracle) (hO : O.Certified) (tie : PTerm → Bool) (tac : Nat → PTerm → TL → List Var → Bool → TacticRes)
    (l ctx : TL) (xs : List Var) (simp : Bool) (ord : List Nat) (hs : ∀ j ∈ ord, TacSound tac j) (r : TL) (used : List Int)
    (h : transform O tie tac l ctx xs true simp ord = .ok (r, used)) :
    ∀ v, TL.holds ctx v → TL.holds r v → TL.holds l v :=
  Elim.transform_refine_sound O hO tie tac l ctx xs simp ord hs r used h

/-- relaxing: the result is implied by the original constraints in the context -/
theorem transform_relax_sound (O : Oracle) (hO : O.Certified) (tie : PTerm → Bool) (tac : Nat → PTerm → TL → List Var → Bool → TacticRes)
    (l ctx : TL) (xs : List Var) (simp : Bool) (ord : List Nat) (hs : ∀ j ∈ ord, TacSound tac j) (r : TL) (used : List Int)
    (h : transform O tie tac l ctx xs false simp ord = .ok (r, used)) :
    ∀ v, TL.holds ctx v → TL.holds l v → TL.holds r v :=
  Elim.transform_relax_sound O hO tie tac l ctx xs simp ord hs r used h

/-- `elim_vars_by_refining`: the result, in the context, implies every original constraint -/
theorem elimRefine_sound (O : Oracle) (hO : O.Certified) (tie : PTerm → Bool) (tac : Nat → PTerm → TL → List Var → Bool → TacticRes)
    (l ctx : TL) (xs : List Var) (simp : Bool) (ord : List Nat) (hs : ∀ j ∈ ord, TacSound tac j) (r : TL) (used : List Int)
    (h : elimRefine O tie tac l ctx xs simp ord = .ok (r, used)) :
    ∀ v, TL.holds ctx v → TL.holds r v → TL.holds l v :=
  Elim.elimRefine_sound O hO tie tac l ctx xs simp ord hs r used h

/-- `elim_vars_by_relaxing`: the result is implied by the original constraints in the context -/
theorem elimRelax_sound (O : Oracle) (hO : O.Certified) (tie : PTerm → Bool) (tac : Nat → PTerm → TL → List Var → Bool → TacticRes)
    (l ctx : TL) (xs : List Var) (simp : Bool) (ord : List Nat) (hs : ∀ j ∈ ord, TacSound tac j) (r : TL) (used : List Int)
    (h : elimRelax O tie tac l ctx xs simp ord = .ok (r, used)) :
    ∀ v, TL.holds ctx v → TL.holds l v → TL.holds r v :=
  Elim.elimRelax_sound O hO tie tac l ctx xs simp ord hs r used h

/-- relaxation never returns a term that still mentions an eliminated variable (no hypothesis on the tactics) -/
theorem elimRelax_no_elim_vars (O : Oracle) (tie : PTerm → Bool) (tac : Nat → PTerm → TL → List Var → Bool → TacticRes)
    (l ctx : TL) (xs : List Var) (simp : Bool) (ord : List Nat) (r : TL) (used : List Int)
    (h : elimRelax O tie tac l ctx xs simp ord = .ok (r, used)) : ∀ t ∈ r, ∀ x ∈ t.vars, x ∉ xs :=
  Elim.elimRelax_no_elim_vars O tie tac l ctx xs simp ord r used h

/-- tactic 2 (LP bound over the context rows on eliminated variables only), both directions, including the branch that
    returns the term itself when the bounded term would have no variable left (`res.vars.isEmpty`) -/
theorem tactic2_sound (O : Oracle) (hO : O.Certified) (t : PTerm) (H : TL) (xs : List Var) (refine : Bool) (r : PTerm)
    (h : tactic2 O t H xs refine = .ok (some r)) :
    ∀ v, TL.holds H v → (if refine then (r.holds v → t.holds v) else (t.holds v → r.holds v)) :=
  Elim.tactic2_sound O hO t H xs refine r h

/-- tactic 5 (LP-active rows): whatever rows the solver made active, a result is kept only when the refinement test
    confirms it (definite verdict) -/
theorem tactic5_sound (O : Oracle) (hO : O.Certified) (t : PTerm) (H : TL) (xs : List Var) (refine : Bool) (active : Option (List Nat))
    (r : PTerm) (h : tactic5 O false t H xs refine active = .ok (some r)) :
    ∀ v, TL.holds H v → (if refine then (r.holds v → t.holds v) else (t.holds v → r.holds v)) :=
  Elim.tactic5_sound O hO t H xs refine active r h

/-- the sign `isolate_variable` gives the constant, as read off the current source, is the correct one -/
theorem isolate_sign_ok : Gen.isolateSign = -1 := by unfold Gen.isolateSign; rfl

/-- tactic 4 (one-variable substitution chains through the context, any depth): every result dominates the term as an
    expression wherever the context holds, hence refines it; when relaxing the tactic declines -/
theorem tactic4_sound (t : PTerm) (H : TL) (xs : List Var) (refine : Bool) (r : PTerm)
    (h : tactic4 (H.length + 1) t H xs refine [] = .ok (some r)) :
    ∀ v, TL.holds H v → (if refine then (r.holds v → t.holds v) else (t.holds v → r.holds v)) :=
  Elim.tactic4_sound isolate_sign_ok t H xs refine r h

/-- the auxiliary variable of tactic 3, as read off the current source, clashes with no variable in use -/
theorem tactic3_fresh_ok : Gen.tactic3Fresh = true := by unfold Gen.tactic3Fresh; rfl

/-- tactic 1 (Kaykobad context reduction), both directions: no hypothesis on the term, the context or the variables -/
theorem tactic1_sound (t : PTerm) (H : TL) (xs : List Var) (refine : Bool) (r : PTerm)
    (h : tactic1 t H xs refine = .ok (some r)) :
    ∀ v, TL.holds H v → (if refine then (r.holds v → t.holds v) else (t.holds v → r.holds v)) :=
  Elim.tactic1_sound t H xs refine r h

/-- tactic 3 (change of variable over the conflict variables, then tactic 1), both directions -/
theorem tactic3_sound (t : PTerm) (H : TL) (xs : List Var) (refine : Bool) (r : PTerm)
    (h : tactic3 t H xs refine = .ok (some r)) :
    ∀ v, TL.holds H v → (if refine then (r.holds v → t.holds v) else (t.holds v → r.holds v)) :=
  Elim.tactic3_sound tactic3_fresh_ok t H xs refine r h

/-- `_tactic_trivial` (entry 6) returns the term itself -/
theorem tactic6_sound (O : Oracle) (hint : PTerm → TL → List Var → Bool → Option (List Nat)) : TacSound (tactic O false hint) 6 := by
  rintro t H xs refine r ⟨⟩
  exact (Gains.refl refine H t).sound

/-- every entry of the real tactic table is sound, for every certified oracle and every hint function (a number
    outside 1..6 is a `KeyError`, never a result) -/
theorem driver_tactics_sound (O : Oracle) (hO : O.Certified) (hint : PTerm → TL → List Var → Bool → Option (List Nat)) :
    ∀ k, TacSound (tactic O false hint) k := by
  intro k t H xs refine r
  fun_cases tactic O false hint k t H xs refine
  · exact fun h => (tactic1_gains h).sound
  · exact fun h => (tactic2_gains hO h).sound
  · exact fun h => (tactic3_gains tactic3_fresh_ok h).sound
  · exact fun h => (tactic4_gains isolate_sign_ok h).sound
  · exact Elim.tactic5_sound O hO t H xs refine _ r
  · rintro ⟨⟩
    exact (Gains.refl refine H t).sound
  · nofun

/-- the property for the real table, refining: every list, context, variable list, order and flag -/
theorem elimRefine_sound_real (O : Oracle) (hO : O.Certified) (tie : PTerm → Bool) (hint : PTerm → TL → List Var → Bool → Option (List Nat))
    (l ctx : TL) (xs : List Var) (simp : Bool) (ord : List Nat) (r : TL) (used : List Int)
    (h : elimRefine O tie (tactic O false hint) l ctx xs simp ord = .ok (r, used)) :
    ∀ v, TL.holds ctx v → TL.holds r v → TL.holds l v :=
  Elim.elimRefine_sound O hO tie _ l ctx xs simp ord (fun j _ => driver_tactics_sound O hO hint j) r used h

/-- the property for the real table, relaxing -/
theorem elimRelax_sound_real (O : Oracle) (hO : O.Certified) (tie : PTerm → Bool) (hint : PTerm → TL → List Var → Bool → Option (List Nat))
    (l ctx : TL) (xs : List Var) (simp : Bool) (ord : List Nat) (r : TL) (used : List Int)
    (h : elimRelax O tie (tactic O false hint) l ctx xs simp ord = .ok (r, used)) :
    (∀ v, TL.holds ctx v → TL.holds l v → TL.holds r v) ∧ ∀ t ∈ r, ∀ x ∈ t.vars, x ∉ xs :=
  ⟨Elim.elimRelax_sound O hO tie _ l ctx xs simp ord (fun j _ => driver_tactics_sound O hO hint j) r used h,
   Elim.elimRelax_no_elim_vars O tie _ l ctx xs simp ord r used h⟩

/-- a dispatcher whose tactics all decline leaves the term (tactic number −1): "must decline, never return
    something else" -/
theorem decline_leaves_term (tac : Nat → PTerm → TL → List Var → Bool → TacticRes) (t : PTerm) (H : TL) (xs : List Var) (refine : Bool)
    (ord : List Nat) (hd : ∀ k ∈ ord, tac k t H xs refine = .error .valueError ∨ tac k t H xs refine = .ok none) :
    transformTerm tac t H xs refine ord = .ok (t, -1) := by
  induction ord with
  | nil => rfl
  | cons k ks ih =>
    have ih' := ih fun j hj => hd j (List.mem_cons_of_mem _ hj)
    unfold transformTerm
    rcases hd k List.mem_cons_self with h | h
    · rw [h]
      exact ih'
    · rw [h]
      exact ih'

/-! ### the premises are satisfiable (concrete runs, evaluated by the kernel) -/
section NonVacuity

-- variables: 1 = a, 2 = b, 3 = x, 4 = y;  0 is a user variable that happens to be called "_"
/-- tactic 1 refines `x + a ≤ 4` to `a + b ≤ 3` through the context row `x - b ≤ 1` … -/
example : tactic1 (PTerm.mk' [(3, 1), (1, 1)] 4) [PTerm.mk' [(3, 1), (2, -1)] 1] [3] true = .ok (some ⟨[(1, 1), (2, 1)], 3⟩) := by
  decide +kernel
/-- … and relaxes it to `a + b ≤ 5` through `-x + b ≤ 1` -/
example : tactic1 (PTerm.mk' [(3, 1), (1, 1)] 4) [PTerm.mk' [(3, -1), (2, 1)] 1] [3] false = .ok (some ⟨[(1, 1), (2, 1)], 5⟩) := by
  decide +kernel
/-- tactic 1 declines when the only row bounds the variable in the wrong direction -/
example : tactic1 (PTerm.mk' [(3, 1), (1, 1)] 4) [PTerm.mk' [(3, 1), (2, -1)] 1] [3] false = .error .valueError := by
  decide +kernel
/-- tactic 3 on `x + 2y + 5·_ ≤ 4` (a user variable called `_`) with the proportional row `2x + 4y - b ≤ 1` -/
example : tactic3 (PTerm.mk' [(3, 1), (4, 2), (0, 5)] 4) [PTerm.mk' [(3, 2), (4, 4), (2, -1)] 1] [3, 4] true
    = .ok (some ⟨[(0, 5), (2, (1 : Rat) / 2)], (7 : Rat) / 2⟩) := by
  decide +kernel
/-- tactic 4 refines `x + a ≤ 4` to `a + b ≤ 3` by substituting for `x` its bound `b + 1` from the one context row -/
example : tactic4 2 (PTerm.mk' [(3, 1), (1, 1)] 4) [PTerm.mk' [(3, 1), (2, -1)] 1] [3] true [] = .ok (some ⟨[(1, 1), (2, 1)], 3⟩) := by
  decide +kernel
/-- an oracle that always abstains: certified (vacuously), and enough for runs that never consult the LP -/
def mute : Oracle := ⟨fun _ _ => .stuck⟩
theorem mute_certified : mute.Certified where
  opt := by intro _ _ _ _ h; cases h
  inf := by intro _ _ h; cases h
  unb := by intro _ _ h; cases h
/-- the whole refinement loop on the real table, default order (premise of `elimRefine_sound_real`) -/
example : elimRefine mute (fun _ => false) (tactic mute false (fun _ _ _ _ => none)) [PTerm.mk' [(3, 1), (1, 1)] 4]
    [PTerm.mk' [(3, 1), (2, -1)] 1] [3] false [1, 2, 3, 4, 5] = .ok ([⟨[(1, 1), (2, 1)], 3⟩], [1]) := by
  decide +kernel
/-- the relaxation loop drops a term it cannot relax (premise of `elimRelax_sound_real`) -/
example : elimRelax mute (fun _ => false) (tactic mute false (fun _ _ _ _ => none)) [PTerm.mk' [(3, 1), (1, 1)] 4, PTerm.mk' [(1, 1)] 7]
    [PTerm.mk' [(3, 1), (2, -1)] 1] [3] false [1, 3, 4] = .ok ([⟨[(1, 1)], 7⟩], [-1]) := by
  decide +kernel

end NonVacuity

end Pacti.C04
