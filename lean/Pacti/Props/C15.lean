import Pacti.Proofs.PolyAlg
import Pacti.Props.C08
/-!
# C15 — composition and merging never forget an interface-level guarantee

Stated for the model of `PolyhedralIoContract.compose_tactics` / `merge` with ANY tactic table `tac` (no soundness
hypothesis: these facts only depend on simplification being an equivalence and on which terms the algebra keeps).
-/
namespace Pacti.C15
open PolyAlg

theorem relaxNil (O : Oracle) (hO : O.Certified) (tie : PTerm → Bool) (tac : Nat → PTerm → TL → List Var → Bool → Elim.TacticRes) :
    Alg.RelaxNilEquiv PTerm.holds (polyPrims O tie false tac) := by
  intro s l Γ b o _ h v hΓ
  obtain ⟨⟨r, st⟩, hp, rfl⟩ := Except.map_eq_ok.mp h
  exact Elim.elimRelax_nil_equiv O hO tie tac l Γ b o r st hp v hΓ

/-- every guarantee of either operand that mentions only variables of the result's interface is implied by the
    result's assumptions together with its guarantees -/
theorem compose_keeps_iface_guarantee (O : Oracle) (hO : O.Certified) (tie : PTerm → Bool)
    (tac : Nat → PTerm → TL → List Var → Bool → Elim.TacticRes)
    (c1 c2 c : Contract PTerm) (keep : List Var) (simp : Bool) (ord : List Nat)
    (h : compose (polyPrims O tie false tac) c1 c2 keep simp ord = .ok c)
    (t : PTerm) (ht : t ∈ c1.g ∨ t ∈ c2.g) (hif : ∀ x ∈ t.vars, x ∈ c.ins ∨ x ∈ c.outs) :
    ∀ v, TL.holds c.a v → TL.holds c.g v → t.holds v :=
  Alg.compose_keeps_iface (polyPrims_spec O hO tie false tac rfl) h ht hif

/-- with no connection between the contracts composition is exact -/
theorem compose_exact_unconnected (O : Oracle) (hO : O.Certified) (tie : PTerm → Bool)
    (tac : Nat → PTerm → TL → List Var → Bool → Elim.TacticRes)
    (c1 c2 c : Contract PTerm) (keep : List Var) (simp : Bool) (ord : List Nat)
    (hn1 : ∀ x, ¬ (x ∈ c1.outs ∧ x ∈ c2.ins)) (hn2 : ∀ x, ¬ (x ∈ c1.ins ∧ x ∈ c2.outs))
    (h : compose (polyPrims O tie false tac) c1 c2 keep simp ord = .ok c) :
    (∀ v, TL.holds c.a v ↔ TL.holds c1.a v ∧ TL.holds c2.a v) ∧
    (∀ v, TL.holds c.a v → (TL.holds c.g v ↔ TL.holds c1.g v ∧ TL.holds c2.g v)) :=
  Alg.compose_exact_unconnected PTerm.holds PTerm.vars _ (polyPrims_spec O hO tie false tac rfl) (relaxNil O hO tie tac) c1 c2 c keep simp ord hn1 hn2 h

/-- merging keeps every guarantee of either operand -/
theorem merge_keeps_iface_guarantee (O : Oracle) (hO : O.Certified) (tie : PTerm → Bool)
    (tac : Nat → PTerm → TL → List Var → Bool → Elim.TacticRes) (c1 c2 m : Contract PTerm)
    (h : merge (polyPrims O tie false tac) c1 c2 = .ok m) (t : PTerm) (ht : t ∈ c1.g ∨ t ∈ c2.g) :
    ∀ v, TL.holds m.a v → TL.holds m.g v → t.holds v := by
  intro v ha hg
  obtain ⟨_, h2⟩ := Pacti.C08.merge_exact_poly O hO tie tac c1 c2 m h
  obtain ⟨g1, g2⟩ := (h2 v ha).mp hg
  rcases ht with h | h
  · exact g1 t h
  · exact g2 t h

end Pacti.C15
