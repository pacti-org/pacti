import Pacti.Proofs.PolyAlg
import Pacti.Props.C04
/-!
# C01 — composition returns a sound abstraction of the exact composition (polyhedral contracts)

`PolyAlg.compose (polyPrims O tie false (realTac O false hint))` is the model of
`PolyhedralIoContract.compose_tactics`: the generic algebra (interface definitions generated from the source)
instantiated with the modelled polyhedral primitives running on an LP oracle `O`.  The two `false`: a verdict of
`refines` inside the tolerance band counts as `False` (`grayAs`), and tactic 5 discards a result whose own check ends
there (`grayKeeps`); with `true` either would be taken for a proof of containment, which it is not.

`compose_sound_poly` is the statement of the property for the real tactic table: every wiring, kept set, flag and
EVERY tactic order (every entry of the table is proved sound, see C04).  `compose_sound_poly_any_sound_table` is the
same for an arbitrary tactic table that is sound on the order used.
-/
namespace Pacti.C01
open PolyAlg

theorem compose_sound_poly_any_sound_table (O : Oracle) (hO : O.Certified) (tie : PTerm → Bool)
    (tac : Nat → PTerm → TL → List Var → Bool → Elim.TacticRes)
    (c1 c2 c : Contract PTerm) (keep : List Var) (simp : Bool) (ord : List Nat) (hord : ∀ j ∈ ord, Elim.TacSound tac j)
    (h : compose (polyPrims O tie false tac) c1 c2 keep simp ord = .ok c) :
    ∀ v, TL.holds c.a v → (TL.holds c1.a v → TL.holds c1.g v) → (TL.holds c2.a v → TL.holds c2.g v) →
      TL.holds c1.a v ∧ TL.holds c2.a v ∧ TL.holds c.g v :=
  Alg.compose_sound PTerm.holds PTerm.vars _ (polyPrims_spec O hO tie false tac rfl) c1 c2 c keep simp ord hord h

theorem compose_sound_poly (O : Oracle) (hO : O.Certified) (tie : PTerm → Bool) (hint : PTerm → TL → List Var → Bool → Option (List Nat))
    (c1 c2 c : Contract PTerm) (keep : List Var) (simp : Bool) (ord : List Nat) 
    (h : compose (polyPrims O tie false (realTac O false hint)) c1 c2 keep simp ord = .ok c) :
    ∀ v, TL.holds c.a v → (TL.holds c1.a v → TL.holds c1.g v) → (TL.holds c2.a v → TL.holds c2.g v) →
      TL.holds c1.a v ∧ TL.holds c2.a v ∧ TL.holds c.g v :=
  compose_sound_poly_any_sound_table O hO tie _ c1 c2 c keep simp ord
    (fun j _ => Pacti.C04.driver_tactics_sound O hO hint j) h

end Pacti.C01
