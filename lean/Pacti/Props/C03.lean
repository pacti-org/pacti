import Pacti.Model.Contract
import Pacti.Proofs.Refine
import Pacti.Proofs.LP
/-!
# C03 — refinement tests decide semantic containment

`refinesTL`/`refinesC` return a `Verdict`: `yes`/`no` are definite, `gray` (only when the code compares with a
tolerance, `Gen.containTol > 0`) means the exact optimum lies within the tolerance band above the bound, where the
float implementation may answer either way.  All theorems hold for every certified LP oracle.
-/
namespace Pacti.C03
open Poly

/-- the tolerance the code compares with (read off the source by the translator) is non-negative -/
theorem tol_nonneg : 0 ≤ Gen.containTol := by unfold Gen.containTol; norm_num

/-- `True` only for containment (no side condition at all). -/
theorem refinesTL_yes (O : Oracle) (hO : O.Certified) (l r : TL) (h : refinesTL O l r = .ok .yes) :
    ∀ v, TL.holds l v → TL.holds r v := Poly.refinesTL_yes O hO l r h

/-- `False` only when some behaviour of the left side violates the right side (terms mention ≥ 1 variable). -/
theorem refinesTL_no (O : Oracle) (hO : O.Certified) (l r : TL) (hl : l.Proper) (hr : r.Proper)
    (h : refinesTL O l r = .ok .no) : ∃ v, TL.holds l v ∧ ¬ TL.holds r v :=
  Poly.refinesTL_no O hO l r hl hr tol_nonneg h

/-- completeness: containment is never answered `no` -/
theorem refinesTL_complete (O : Oracle) (hO : O.Certified) (l r : TL) (hl : l.Proper) (hr : r.Proper)
    (hcont : ∀ v, TL.holds l v → TL.holds r v) : refinesTL O l r ≠ .ok .no := by
  intro h
  obtain ⟨v, hv, hn⟩ := refinesTL_no O hO l r hl hr h
  exact hn (hcont v hv)

/-- an infeasible left side refines everything -/
theorem infeasible_left (O : Oracle) (hO : O.Certified) (l r : TL) (hl : l.Proper) (hr : r.Proper)
    (hinf : ¬ ∃ v, TL.holds l v) : refinesTL O l r ≠ .ok .no :=
  refinesTL_complete O hO l r hl hr (fun v hv => absurd ⟨v, hv⟩ hinf)

/-- nothing feasible refines an infeasible right side -/
theorem infeasible_right (O : Oracle) (hO : O.Certified) (l r : TL) (hsat : ∃ v, TL.holds l v)
    (hinf : ¬ ∃ v, TL.holds r v) : refinesTL O l r ≠ .ok .yes := by
  intro h
  obtain ⟨v, hv⟩ := hsat
  exact hinf ⟨v, refinesTL_yes O hO l r h v hv⟩

/-- reflexivity and sub-lists: never `no` -/
theorem refines_sublist (O : Oracle) (hO : O.Certified) (l r : TL) (hl : l.Proper) (hsub : ∀ t ∈ r, t ∈ l) : refinesTL O l r ≠ .ok .no :=
  refinesTL_complete O hO l r hl (fun t ht => hl t (hsub t ht)) (fun _ hv t ht => hv t (hsub t ht))

theorem sharesIO_iff (c d : PContract) :
    sharesIO c d = true ↔ (∀ x, x ∈ c.ins ↔ x ∈ d.ins) ∧ (∀ x, x ∈ c.outs ↔ x ∈ d.outs) := by
  rw [sharesIO, Bool.and_eq_true, Gen.lists_equal_iff, Gen.lists_equal_iff]

theorem andV_eq_yes (a b : Verdict) : andV a b = .yes ↔ a = .yes ∧ b = .yes := by
  cases a <;> cases b <;> simp [andV]

theorem andV_eq_no (a b : Verdict) : andV a b = .no ↔ a = .no ∨ b = .no := by
  cases a <;> cases b <;> simp [andV]

theorem refinesTL_union_yes (O : Oracle) (hO : O.Certified) {a b c : TL}
    (h : refinesTL O (tlUnion a c) (tlUnion b c) = .ok .yes) : ∀ v, TL.holds c v → TL.holds a v → TL.holds b v :=
  fun v hc ha => (TL.holds_union.mp (refinesTL_yes O hO _ _ h v (TL.holds_union.mpr ⟨ha, hc⟩))).1

theorem refinesC_ok (O : Oracle) (c d : PContract) (w : Verdict) (h : refinesC O c d = .ok w) :
    sharesIO c d = true ∧ ∃ v1 v2, refinesTL O d.a c.a = .ok v1 ∧
      refinesTL O (tlUnion c.g d.a) (tlUnion d.g d.a) = .ok v2 ∧ w = andV v1 v2 := by
  revert h
  fun_cases refinesC O c d <;> rintro ⟨⟩
  rename_i hio v1 h1 v2 h2
  exact ⟨by simpa using hio, v1, v2, h1, h2, rfl⟩

/-- contracts: `True` only if interfaces agree as sets, assumptions are no stronger and guarantees no weaker
    wherever the right side's assumptions hold -/
theorem refinesC_yes (O : Oracle) (hO : O.Certified) (c d : PContract) (h : refinesC O c d = .ok .yes) :
    (∀ x, x ∈ c.ins ↔ x ∈ d.ins) ∧ (∀ x, x ∈ c.outs ↔ x ∈ d.outs) ∧
    (∀ v, TL.holds d.a v → TL.holds c.a v) ∧ (∀ v, TL.holds d.a v → TL.holds c.g v → TL.holds d.g v) := by
  obtain ⟨hio, v1, v2, h1, h2, hw⟩ := refinesC_ok O c d _ h
  obtain ⟨rfl, rfl⟩ := (andV_eq_yes v1 v2).mp hw.symm
  exact ⟨((sharesIO_iff c d).mp hio).1, ((sharesIO_iff c d).mp hio).2, refinesTL_yes O hO _ _ h1,
    refinesTL_union_yes O hO h2⟩

/-- contracts: `False` only if a behaviour witnesses non-refinement -/
theorem refinesC_no (O : Oracle) (hO : O.Certified) (c d : PContract)
    (hp : c.a.Proper ∧ c.g.Proper ∧ d.a.Proper ∧ d.g.Proper)
    (h : refinesC O c d = .ok .no) :
    (∃ v, TL.holds d.a v ∧ ¬ TL.holds c.a v) ∨ (∃ v, TL.holds d.a v ∧ TL.holds c.g v ∧ ¬ TL.holds d.g v) := by
  obtain ⟨hca, hcg, hda, hdg⟩ := hp
  obtain ⟨_, v1, v2, h1, h2, hw⟩ := refinesC_ok O c d _ h
  rcases (andV_eq_no v1 v2).mp hw.symm with rfl | rfl
  · exact Or.inl (refinesTL_no O hO _ _ hda hca h1)
  · obtain ⟨v, hv1, hv2⟩ := refinesTL_no O hO _ _ (hcg.union hda) (hdg.union hda) h2
    obtain ⟨hg, ha⟩ := TL.holds_union.mp hv1
    exact Or.inr ⟨v, ha, hg, fun hdg => hv2 (TL.holds_union.mpr ⟨hdg, ha⟩)⟩

/-- different interfaces raise `IncompatibleArgsError` instead of being compared -/
theorem refinesC_io_error (O : Oracle) (c d : PContract)
    (h : ¬ ((∀ x, x ∈ c.ins ↔ x ∈ d.ins) ∧ (∀ x, x ∈ c.outs ↔ x ∈ d.outs))) :
    refinesC O c d = .error .incompatibleArgs := by
  unfold refinesC
  rw [if_pos]
  rwa [Bool.not_eq_true', ← Bool.not_eq_true, sharesIO_iff]

/-- `contains_environment` / `contains_implementation` are `refines` on term lists -/
theorem containsEnvironment_yes (O : Oracle) (hO : O.Certified) (c : PContract) (e : TL)
    (h : containsEnvironment O c e = .ok .yes) : ∀ v, TL.holds e v → TL.holds c.a v := refinesTL_yes O hO _ _ h

theorem containsImplementation_yes (O : Oracle) (hO : O.Certified) (c : PContract) (m : TL)
    (h : containsImplementation O c m = .ok .yes) : ∀ v, TL.holds m v → TL.holds c.a v → TL.holds c.g v := by
  intro v hm ha
  exact refinesTL_union_yes O hO h v ha hm

/-- the oracle class is inhabited by the driver's oracle, whatever solver it wraps -/
theorem driver_oracle_certified (solver : Lin → TL → LPAns) : (checkedOracle solver).Certified :=
  checkedOracle_certified solver

end Pacti.C03
