import Pacti.Proofs.Serial
import Pacti.Proofs.ReadNum
/-!
# C10 — contracts survive serialisation to dictionaries, strings and files

* machine dictionary: `fromDict (toMachine c) = .ok c` for every well-formed contract, and everything `fromDict`
  returns is well formed (so the side condition is exactly "a contract the constructor can have produced").
* `%.4g`: `round4 q` (the value of the digits `fmt4g q` prints — both are read off the same decomposition
  `dec4pos`) has four significant digits, is within half a unit of the fourth significant digit of `q`, commutes with
  negation, and is a fixed point of itself (printing what was printed changes nothing).
* folding: for an exactly opposite pair the folded relation (`LHS = c`, `|LHS| = 0`, `|LHS| <= c`) has exactly the
  meaning of the two inequalities, and the whole `to_str_list` loop (`folds`) preserves the meaning of the list as
  long as no pair lies in the approximate band of `np.isclose` without being exactly opposite.

The remaining link — that the parser reads the printed strings back as these relations with the printed (rounded)
numbers — is C09's parser model; here it is decided per case by the harness judge with exact `Fraction`s.
-/
namespace Pacti.C10
open Serial

/-- a term in normal form (increasing variables, no zero coefficient): what `PolyhedralTerm.__init__` keeps -/
def NormalTerm (t : PTerm) : Prop := normC t.coeffs = t.coeffs

/-- every term built by the constructor is in normal form -/
theorem mk_normal (l : Lin) (c : Rat) : NormalTerm (PTerm.mk' l c) := normC_idem l

theorem normal_iff (t : PTerm) : NormalTerm t ↔ SortedNZ t.coeffs :=
  ⟨fun h => by rw [← h]; exact normC_sorted _, normC_of_sorted⟩

/-- a contract object that `IoContract.__init__` can have produced: normal-form terms and the five interface tests -/
structure WF (c : PContract) : Prop where
  a_normal : ∀ t ∈ c.a, NormalTerm t
  g_normal : ∀ t ∈ c.g, NormalTerm t
  ins_nodup : c.ins.Nodup
  outs_nodup : c.outs.Nodup
  disjoint : ∀ x ∈ c.ins, x ∉ c.outs
  a_vars : ∀ x ∈ c.a.vars, x ∈ c.ins
  g_vars : ∀ x ∈ c.g.vars, x ∈ c.ins ∨ x ∈ c.outs

/-- `from_dict(to_machine_dict(c), simplify=False)` is `c`: same assumptions, guarantees, inputs **and outputs**,
    in the same order, with exactly the same numbers. -/
theorem machine_roundtrip (c : PContract) (h : WF c) : fromDict (toMachine c) = .ok c := by
  unfold fromDict toMachine
  simp only [isObj, Bool.not_true, Bool.false_eq_true, if_false, get?_obj_cons, String.reduceEq, if_true,
    termsOfJ_map h.a_normal, termsOfJ_map h.g_normal, varsOfJ_map]
  exact (mkContract_ok_iff ..).mpr ⟨h.ins_nodup, h.outs_nodup, h.disjoint, h.a_vars, h.g_vars, rfl⟩

/-- whatever `from_dict` returns is well formed (the hypothesis of `machine_roundtrip` is not an extra restriction) -/
theorem fromDict_wf (j : J) (c : PContract) (h : fromDict j = .ok c) : WF c := by
  revert h
  fun_cases fromDict j
  case case6 =>
    intro h
    obtain ⟨h1, h2, h3, h4, h5, rfl⟩ := (mkContract_ok_iff ..).mp h
    exact ⟨termsOfJ_normal ‹_›, termsOfJ_normal ‹_›, h1, h2, h3, h4, h5⟩
  all_goals nofun

/-- a dictionary that is not a keyword dictionary, or lacks one of the four keywords, is a `ValueError` -/
theorem fromDict_missing (j : J) (k : String) (hk : k ∈ ["assumptions", "guarantees", "input_vars", "output_vars"])
    (h : j.get? k = none) : fromDict j = .error .valueError := by
  unfold fromDict
  split
  · rfl
  · simp only [List.mem_cons, List.not_mem_nil, or_false] at hk
    rcases hk with rfl | rfl | rfl | rfl <;> simp [h]

example : fromDict (toMachine ⟨[PTerm.mk' [(1, 2), (2, -1/3)] 5], [PTerm.mk' [(3, 1)] (-7/2)], [1, 2], [3]⟩)
    = .ok ⟨[PTerm.mk' [(1, 2), (2, -1/3)] 5], [PTerm.mk' [(3, 1)] (-7/2)], [1, 2], [3]⟩ := by decide +kernel

theorem round4_zero : round4 0 = 0 := rfl

/-- the printed value has four significant digits: it is `±m·10^(e-3)` with `1000 ≤ m ≤ 9999` -/
theorem round4_digits (q : ℚ) (hq : q ≠ 0) :
    ∃ (m : ℕ) (e : ℤ), 1000 ≤ m ∧ m ≤ 9999 ∧ |round4 q| = (m : ℚ) * (10 : ℚ) ^ (e - 3) := by
  have hp := decOf_value_pos hq
  refine ⟨(decOf q).m, (decOf q).e, (decOf_spec hq).1, (decOf_spec hq).2.1, ?_⟩
  rcases lt_or_gt_of_ne hq with h | h
  · rw [round4_of_neg h, abs_neg, abs_of_pos hp, Dec.value_eq]
  · rw [round4_of_pos h, abs_of_pos hp, Dec.value_eq]

/-- **`fmt4g_round4`**: the printed value is within half a unit of the fourth significant digit of `q`:
    if `10^e ≤ |q| < 10^(e+1)` then `|round4 q − q| ≤ 5·10^(e−4)`. -/
theorem round4_close (q : ℚ) (e : ℤ) (h1 : (10 : ℚ) ^ e ≤ |q|) (h2 : |q| < (10 : ℚ) ^ (e + 1)) :
    |round4 q - q| ≤ 5 * (10 : ℚ) ^ (e - 4) := by
  have hq : q ≠ 0 := abs_pos.mp ((ten_zpow_pos e).trans_le h1)
  have h3 := (decOf_spec hq).2.2 e ⟨h1, h2⟩
  rcases lt_or_gt_of_ne hq with h | h
  · rw [abs_of_neg h] at h3
    rwa [round4_of_neg h, ← neg_add', abs_neg, ← sub_neg_eq_add]
  · rw [abs_of_pos h] at h3
    rwa [round4_of_pos h]

/-- the sign is printed separately: `round4 (−q) = −round4 q` -/
theorem round4_neg (q : ℚ) : round4 (-q) = - round4 q := by
  rcases lt_trichotomy q 0 with h | rfl | h
  · rw [round4_of_pos (neg_pos.mpr h), round4_of_neg h, decOf_neg, neg_neg]
  · rfl
  · rw [round4_of_neg (neg_neg_of_pos h), round4_of_pos h, decOf_neg]

/-- printing what was printed changes nothing: `round4 (round4 q) = round4 q` -/
theorem round4_idem (q : ℚ) : round4 (round4 q) = round4 q := bySign_round4 0 (fun d => -d.value) Dec.value q

/-- `fmt4g` and `round4` read the same decomposition: the string is the rendering of the digits `d` (with the sign in
    front) and `round4 q` is the value of exactly these digits -/
theorem fmt4g_round4_same_digits (q : ℚ) (hq : q ≠ 0) :
    ∃ d : Dec, 1000 ≤ d.m ∧ d.m ≤ 9999 ∧
      fmt4g q = String.ofList (if q < 0 then '-' :: d.renderL else d.renderL) ∧
      round4 q = (if q < 0 then -d.value else d.value) :=
  ⟨decOf q, (decOf_spec hq).1, (decOf_spec hq).2.1,
    congrArg String.ofList ((fmt4gL_bySign q).trans (bySign_of_ne hq)),
    (round4_bySign q).trans (bySign_of_ne hq)⟩

/-- **the printed numeral denotes the rounded value.**  Reading the string that `%.4g` prints back as a decimal numeral
    (`readNum`: `[-]ddd[.ddd][e±dd]`, the shape `float(s)` and the grammar's number token accept) gives exactly
    `round4 q` — for every rational `q`, fixed and scientific notation, renormalised mantissas included. -/
theorem readNum_fmt4g (q : ℚ) : readNum (fmt4g q) = some (round4 q) := Serial.readNum_fmt4g q

/-- the printed string is stable under its own rounding: the number that was printed prints as the same string -/
theorem fmt4g_round4 (q : ℚ) : fmt4g (round4 q) = fmt4g q :=
  congrArg String.ofList (bySign_round4 ['0'] (fun d => '-' :: d.renderL) Dec.renderL q)

/-- printing, reading back and printing again changes nothing -/
theorem fmt4g_readNum_fmt4g (q : ℚ) : (readNum (fmt4g q)).map fmt4g = some (fmt4g q) := by
  rw [readNum_fmt4g, Option.map_some, fmt4g_round4]

example : fmt4g (12345 / 10) = "1234" := by decide +kernel
example : fmt4g (99995 / 10) = "1e+04" := by decide +kernel
example : fmt4g (-1 / 30000) = "-3.333e-05" := by decide +kernel
example : round4 (12345 / 10) = 1234 := by decide +kernel      -- tie → even
example : round4 (12355 / 10) = 1236 := by decide +kernel
example : round4 (99995 / 10) = 10000 := by decide +kernel     -- renormalised mantissa
example : round4 (-1 / 3) = -3333 / 10000 := by decide +kernel

/-- the meaning of what one round of `polyhedral_term_list_to_strings` prints for the head term (exact numbers) -/
def foldHolds (tp : PTerm) (f : Fold) (v : Val) : Prop :=
  match f with
  | .le => tp.lhs v ≤ tp.const
  | .eq _ => tp.lhs v = tp.const
  | .abs0 _ => |tp.lhs v| = 0
  | .absle _ => |tp.lhs v| ≤ tp.const

/-- rule `LHS = c`: an exactly opposite pair with exactly opposite constants means the equality -/
theorem fold_eq_sound (tp tn : PTerm) (h : ExactOpp tp tn) (hc : tn.const = -tp.const) (v : Val) :
    (tp.holds v ∧ tn.holds v) ↔ tp.lhs v = tp.const := by
  rw [fold_pair_sound tp tn h v, hc, neg_neg, and_comm, ← le_antisymm_iff]

/-- rule `|LHS| <= c`: an exactly opposite pair with equal constants means the absolute-value bound -/
theorem fold_abs_sound (tp tn : PTerm) (h : ExactOpp tp tn) (hc : tn.const = tp.const) (v : Val) :
    (tp.holds v ∧ tn.holds v) ↔ |tp.lhs v| ≤ tp.const := by
  rw [fold_pair_sound tp tn h v, hc, abs_le]

/-- rule `|LHS| = 0`: an exactly opposite pair with both constants zero means `|LHS| = 0` -/
theorem fold_abs0_sound (tp tn : PTerm) (h : ExactOpp tp tn) (hp : tp.const = 0) (hn : tn.const = 0) (v : Val) :
    (tp.holds v ∧ tn.holds v) ↔ |tp.lhs v| = 0 := by
  rw [fold_abs_sound tp tn h (by rw [hp, hn]) v, hp]
  exact ⟨fun h => le_antisymm h (abs_nonneg _), fun h => h.le⟩

/-- the printer's approximate test accepts every exactly opposite pair of normal-form terms (so the rules above
    do fire on them) -/
theorem exact_is_opposite (tp tn : PTerm) (hp : NormalTerm tp) (h : ExactOpp tp tn) : areOpposite tp tn = true :=
  areOpposite_of_exact tp tn ((normal_iff tp).mp hp) h

/-- a pair is either really opposite (with really opposite / zero / equal constants when the corresponding test
    says so) or it does not pass the approximate tests at all -/
def ExactPair (tp tn : PTerm) : Prop :=
  areOpposite tp tn = true →
    ExactOpp tp tn ∧
    (approxEq tp.const (-tn.const) = true → tn.const = -tp.const) ∧
    (approxEq tp.const 0 = true → approxEq tn.const 0 = true → tp.const = 0 ∧ tn.const = 0) ∧
    (approxEq tp.const tn.const = true → tn.const = tp.const)

/-- no pair of the list lies strictly inside the `isclose` band -/
def NoNearOpposite (l : TL) : Prop := ∀ tp ∈ l, ∀ tn ∈ l, ExactPair tp tn

/-- a rule `f` that removes the member `tn` and means the pair `tp`, `tn` -/
theorem fold_rule {tp tn : PTerm} {ts : TL} (f : Fold) {v : Val} (hm : tn ∈ ts) (hr : foldRest ts f = ts.erase tn)
    (hf : tp.holds v ∧ tn.holds v ↔ foldHolds tp f v) :
    foldHolds tp f v ∧ TL.holds (foldRest ts f) v ↔ tp.holds v ∧ TL.holds ts v := by
  rw [hr, ← hf, TL.holds_erase_of_mem hm v, and_assoc]

/-- one round of the loop: what it prints for the head term, together with the terms it leaves, means the same as the
    head term together with all the others -/
theorem fold_step (tp : PTerm) (ts : TL) (hn : ∀ tn ∈ ts, ExactPair tp tn) (v : Val) :
    foldHolds tp (findFold tp ts) v ∧ TL.holds (foldRest ts (findFold tp ts)) v ↔ tp.holds v ∧ TL.holds ts v := by
  refine findFold_ind tp (fun f => foldHolds tp f v ∧ TL.holds (foldRest ts f) v ↔ tp.holds v ∧ TL.holds ts v)
    Iff.rfl ts fun tn hm hpass => ?_
  obtain ⟨hopp, hEq, hAbs0, hAbsle⟩ := hn tn hm hpass
  exact ⟨fun hc => fold_rule (.eq tn) hm rfl (fold_eq_sound tp tn hopp (hEq hc) v),
    fun hc1 hc2 => fold_rule (.abs0 tn) hm rfl (fold_abs0_sound tp tn hopp (hAbs0 hc1 hc2).1 (hAbs0 hc1 hc2).2 v),
    fun hc => fold_rule (.absle tn) hm rfl (fold_abs_sound tp tn hopp (hAbsle hc) v)⟩

/-- `l.length ≤ fuel` suffices: every round removes the head term, so the rest is shorter -/
theorem foldsGo_sound (v : Val) (fuel : Nat) (l : TL) : l.length ≤ fuel → NoNearOpposite l →
    ((∀ p ∈ foldsGo fuel l, foldHolds p.1 p.2 v) ↔ TL.holds l v) := by
  fun_induction foldsGo fuel l
  case case1 =>
    intro hl _
    rw [List.eq_nil_of_length_eq_zero (Nat.le_zero.mp hl)]
    exact iff_of_true (List.forall_mem_nil _) (TL.holds_nil v)
  case case2 => exact fun _ _ => iff_of_true (List.forall_mem_nil _) (TL.holds_nil v)
  case case3 fuel tp ts f ih =>
    intro hl hn
    have hs := foldRest_sublist ts f
    have hrest : NoNearOpposite (foldRest ts f) := fun a ha b hb =>
      hn a (List.mem_cons_of_mem _ (hs.subset ha)) b (List.mem_cons_of_mem _ (hs.subset hb))
    rw [List.forall_mem_cons, TL.holds_cons, ih (hs.length_le.trans (Nat.le_of_succ_le_succ hl)) hrest]
    exact fold_step tp ts (fun tn hm => hn tp List.mem_cons_self tn (List.mem_cons_of_mem _ hm)) v

/-- **the whole `to_str_list` loop preserves meaning** (before rounding): the relations it prints — one per round,
    partner removed — hold at `v` exactly when every term of the list does.  `termListToStrs names l` is by
    definition `(folds l).map (foldStr names ·)`. -/
theorem folds_sound (l : TL) (h : NoNearOpposite l) (v : Val) :
    (∀ p ∈ folds l, foldHolds p.1 p.2 v) ↔ TL.holds l v :=
  foldsGo_sound v l.length l (Nat.le_refl _) h

theorem termListToStrs_eq (names : List String) (l : TL) :
    termListToStrs names l = (folds l).map fun p => foldStr names p.1 p.2 := rfl

theorem foldsGo_length_le : ∀ (fuel : Nat) (l : TL), (foldsGo fuel l).length ≤ fuel
  | 0, _ => Nat.le_refl 0
  | _ + 1, [] => Nat.zero_le _
  | n + 1, _ :: _ => Nat.succ_le_succ (foldsGo_length_le n _)

/-- the loop prints one string per round and never more strings than terms -/
theorem folds_length_le (l : TL) : (folds l).length ≤ l.length := foldsGo_length_le _ _

-- non-vacuity: a folded equality, a folded absolute value, a non-adjacent partner
example : folds [PTerm.mk' [(1, 2)] 3, PTerm.mk' [(2, 1)] 1, PTerm.mk' [(1, -2)] (-3)]
    = [(PTerm.mk' [(1, 2)] 3, .eq (PTerm.mk' [(1, -2)] (-3))), (PTerm.mk' [(2, 1)] 1, .le)] := by decide +kernel
example : folds [PTerm.mk' [(1, 2)] 3, PTerm.mk' [(1, -2)] 3] = [(PTerm.mk' [(1, 2)] 3, .absle (PTerm.mk' [(1, -2)] 3))] := by
  decide +kernel

end Pacti.C10
