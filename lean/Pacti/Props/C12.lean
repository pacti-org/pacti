import Pacti.Proofs.Optimize
import Pacti.Proofs.LP
import Pacti.Proofs.Lists
import Pacti.Model.PolyAlg
/-!
# C12 — optimisation over a contract returns the true optimum, `None` iff unbounded

`Poly.optimize O l obj maximize` models `PolyhedralTermList.optimize` on the constraint list `l = a | g` of the
contract, with the code's status mapping.  The theorems are proved for the oracle class `PresolveAmbiguous`, in
which — as HiGHS does after presolve — `infeasible` may also be answered for a satisfiable problem whose objective is
unbounded; a fortiori they hold for every certified oracle (`certified_is_ambiguous`).  The four possible
outcomes (`some m`, `none`, `ValueError`, model-only `oracleStuck`) are exhaustive (`Poly.optimize_spec`) and the three
conclusions are mutually exclusive, so each implication is an equivalence whenever the oracle does not give up.
-/
namespace Pacti.C12
open Poly

/-- a value is returned only if it is attained and optimal in the requested direction -/
theorem optimize_some (O : Oracle) (hO : O.PresolveAmbiguous) (l : TL) (obj : Lin) (mx : Bool) (m : Rat)
    (h : optimize O l obj mx = .ok (some m)) :
    (∃ z, TL.holds l z ∧ evalL obj z = m) ∧
    ∀ z, TL.holds l z → (if mx then evalL obj z ≤ m else m ≤ evalL obj z) :=
  Poly.optimize_some O hO l obj mx m h

/-- `None` only if some behaviour satisfies the contract and the objective is unbounded in the requested direction.
    (No hypothesis `l.Proper`: `[0 ≤ -1]` is reported infeasible because `is_polytope_empty` answers a matrix without
    columns by the signs of the constants; the proof checks only against such a source: `Gen.emptyNoColsBySign = true`
    by `rfl`.) -/
theorem optimize_none (O : Oracle) (hO : O.PresolveAmbiguous) (l : TL) (obj : Lin) (mx : Bool)
    (h : optimize O l obj mx = .ok none) :
    (∃ z, TL.holds l z) ∧ ∀ M, ∃ z, TL.holds l z ∧ (if mx then M < evalL obj z else evalL obj z < -M) :=
  Poly.optimize_none rfl O hO l obj mx h

/-- `ValueError` only if no behaviour satisfies the contract -/
theorem optimize_err (O : Oracle) (hO : O.PresolveAmbiguous) (l : TL) (obj : Lin) (mx : Bool)
    (h : optimize O l obj mx = .error .valueError) : ¬ ∃ z, TL.holds l z :=
  Poly.optimize_err O hO l obj mx h

/-- every behaviour of the contract lies within the variable bounds -/
theorem bounds_enclose (O : Oracle) (hO : O.PresolveAmbiguous) (l : TL) (x : Var) (lo hi : Option Rat)
    (h : variableBounds O l x = .ok (lo, hi)) :
    ∀ v, TL.holds l v → (∀ a, lo = some a → a ≤ v x) ∧ (∀ b, hi = some b → v x ≤ b) :=
  Poly.bounds_enclose O hO l x lo hi h

/-! ### contract level: `PolyhedralIoContract.optimize` / `get_variable_bounds` run the list operation on `a | g` -/

/-- a value is returned only if some behaviour satisfying assumptions and guarantees attains it and none exceeds it -/
theorem contract_optimize_some (O : Oracle) (hO : O.PresolveAmbiguous) (c : Contract PTerm) (obj : Lin) (mx : Bool) (m : Rat)
    (h : PolyAlg.optimizeC O c obj mx = .ok (some m)) :
    (∃ z, TL.holds c.a z ∧ TL.holds c.g z ∧ evalL obj z = m) ∧
    ∀ z, TL.holds c.a z → TL.holds c.g z → (if mx then evalL obj z ≤ m else m ≤ evalL obj z) := by
  simpa only [TL.holds_union, and_assoc, and_imp] using Poly.optimize_some O hO _ obj mx m h

/-- `None` only if the contract has a behaviour and the objective is unbounded over its behaviours -/
theorem contract_optimize_none (O : Oracle) (hO : O.PresolveAmbiguous) (c : Contract PTerm)
    (obj : Lin) (mx : Bool) (h : PolyAlg.optimizeC O c obj mx = .ok none) :
    (∃ z, TL.holds c.a z ∧ TL.holds c.g z) ∧
    ∀ M, ∃ z, TL.holds c.a z ∧ TL.holds c.g z ∧ (if mx then M < evalL obj z else evalL obj z < -M) := by
  simpa only [TL.holds_union, and_assoc] using Poly.optimize_none rfl O hO _ obj mx h

/-- `ValueError` only if no behaviour satisfies assumptions and guarantees together -/
theorem contract_optimize_err (O : Oracle) (hO : O.PresolveAmbiguous) (c : Contract PTerm) (obj : Lin) (mx : Bool)
    (h : PolyAlg.optimizeC O c obj mx = .error .valueError) : ¬ ∃ z, TL.holds c.a z ∧ TL.holds c.g z :=
  fun ⟨z, ha, hg⟩ => Poly.optimize_err O hO _ obj mx h ⟨z, TL.holds_union.mpr ⟨ha, hg⟩⟩

/-- every behaviour of the contract lies within the reported variable bounds -/
theorem contract_bounds_enclose (O : Oracle) (hO : O.PresolveAmbiguous) (c : Contract PTerm) (x : Var) (lo hi : Option Rat)
    (h : PolyAlg.boundsC O c x = .ok (lo, hi)) :
    ∀ v, TL.holds c.a v → TL.holds c.g v → (∀ a, lo = some a → a ≤ v x) ∧ (∀ b, hi = some b → v x ≤ b) :=
  fun v ha hg => Poly.bounds_enclose O hO _ x lo hi h v (TL.holds_union.mpr ⟨ha, hg⟩)

theorem certified_is_ambiguous (O : Oracle) (h : O.Certified) : O.PresolveAmbiguous :=
  h.toPresolveAmbiguous

/-- the pinned status mapping (`2 ↦ ValueError` unconditionally) is wrong for the ambiguous class: an oracle of that
    class and a satisfiable unbounded problem on which it would have raised -/
example : ∃ (O : Oracle), O.PresolveAmbiguous ∧ O.lp [(1, 1)] [⟨[(1, -1)], 0⟩] = .infeasible ∧ (∃ z, TL.holds [⟨[(1, -1)], 0⟩] z) := by
  have hsat : TL.holds [(⟨[(1, -1)], 0⟩ : PTerm)] (fun _ => 0) := by
    intro t ht
    rw [List.mem_singleton.mp ht]
    simp [PTerm.holds, evalL]
  refine ⟨⟨fun obj cs => if obj = [(1, 1)] ∧ cs = [⟨[(1, -1)], 0⟩] then .infeasible else .stuck⟩,
    { opt := ?opt, inf := ?inf, inf0 := ?inf0, unb := ?unb }, by simp, _, hsat⟩
  case opt => intro obj cs m x h; simp only at h; split at h <;> cases h
  case unb => intro obj cs h; simp only at h; split at h <;> cases h
  case inf0 =>
    intro cs h
    simp only at h
    split at h
    · rename_i hc
      exact absurd hc.1 (by decide)
    · cases h
  case inf =>
    intro obj cs h
    simp only at h
    split at h
    · rename_i hc
      obtain ⟨rfl, rfl⟩ := hc
      -- unbounded along the direction `(1, 1, …)`
      refine Or.inr ⟨⟨_, hsat⟩, unbounded_of_ray _ _ _ (fun _ => 1) hsat (fun c hc => ?_) (by simp [evalL])⟩
      rw [List.mem_singleton.mp hc]
      simp [evalL]
    · cases h

end Pacti.C12
