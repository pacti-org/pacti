import Pacti.Proofs.PolyAlg
import Pacti.Props.C07
/-!
# C07, contract level — "building or simplifying a contract never changes the behaviours allowed by assumptions
together with guarantees", and leaves no redundant guarantee

`PolyAlg.mk P a g ins outs true` models `PolyhedralIoContract.__init__(…, simplify=True)`; `IoContract.simplify()` on a
contract with fields `(a, g)` performs the same call `g.simplify(a)`.  (`Props/C07.lean` is the level of term lists; this
file needs the polyhedral instantiation of the algebra, `Proofs/PolyAlg`, on top of it.)
-/
namespace Pacti.C07
open PolyAlg

/-- construction with simplification: assumptions and interface untouched; the guarantees are a selection of the
    given ones, equivalent to them wherever the assumptions hold, and no surviving guarantee is implied by the
    assumptions and the other survivors -/
theorem ctor_simplify (O : Oracle) (hO : O.Certified) (tie : PTerm → Bool) (grayAs : Bool)
    (tac : Nat → PTerm → TL → List Var → Bool → Elim.TacticRes) (a g : TL) (ins outs : List Var) (c : Contract PTerm)
    (h : mk (polyPrims O tie grayAs tac) a g ins outs true = .ok c) :
    c.a = a ∧ c.ins = ins ∧ c.outs = outs ∧ c.g.Sublist g ∧
    (∀ v, TL.holds a v → (TL.holds c.g v ↔ TL.holds g v)) ∧
    (g.Proper → (a = [] ∨ a.vars ≠ []) → ∀ r1 t r2, c.g = r1 ++ t :: r2 →
      ∃ v, TL.holds a v ∧ TL.holds (r1 ++ r2) v ∧ t.const ≤ evalL t.coeffs v) := by
  obtain ⟨-, ha, hi, ho, hs⟩ := Alg.mkContract_ok h
  rw [if_pos rfl] at hs
  have hs' : Poly.simplify O tie g (some a) = .ok c.g := hs
  exact ⟨ha, hi, ho, Poly.simplify_ok O hO tie g (some a) _ hs'⟩

/-- consequently the behaviours allowed by assumptions together with guarantees are unchanged -/
theorem ctor_behaviours (O : Oracle) (hO : O.Certified) (tie : PTerm → Bool) (grayAs : Bool)
    (tac : Nat → PTerm → TL → List Var → Bool → Elim.TacticRes) (a g : TL) (ins outs : List Var) (simp : Bool) (c : Contract PTerm)
    (h : mk (polyPrims O tie grayAs tac) a g ins outs simp = .ok c) :
    ∀ v, (TL.holds c.a v ∧ TL.holds c.g v) ↔ (TL.holds a v ∧ TL.holds g v) := by
  obtain ⟨-, ha, -, -, hs⟩ := Alg.mkContract_ok h
  intro v
  rw [ha]
  refine and_congr_right fun h1 => ?_
  split at hs
  · exact (Poly.simplify_ok O hO tie g (some a) _ hs).2.1 v h1
  · rw [hs]

/-- a construction error is the interface rejection (C06), or — for guarantees that mention variables — infeasibility of
    the guarantees under the assumptions -/
theorem ctor_error (O : Oracle) (hO : O.Certified) (tie : PTerm → Bool) (grayAs : Bool)
    (tac : Nat → PTerm → TL → List Var → Bool → Elim.TacticRes) (a g : TL) (hp : g.Proper) (ins outs : List Var) (e : Err)
    (h : mk (polyPrims O tie grayAs tac) a g ins outs true = .error e) :
    e = .incompatibleArgs ∨ (e = .valueError ∧ ¬ ∃ v, TL.holds a v ∧ TL.holds g v) ∨ e = .oracleStuck := by
  refine (Alg.mkContract_error h).imp_right fun hs => ?_
  exact Poly.simplify_error O hO tie g hp (some a) e hs.2

end Pacti.C07
