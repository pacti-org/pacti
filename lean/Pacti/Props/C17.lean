import Pacti.Proofs.Compound
import Pacti.Proofs.LP
/-!
# C17 — compound (disjunctive) contracts behave as unions of polyhedra

A nested term list `n : Nested` (`NestedTermList.nested_termlist`) denotes the union `{v | ∃ l ∈ n, TL.holds l v}`.
`O` is any LP oracle whose answers carry certificates accepted by the proved checkers (`driver_oracle_certified`).
`Proper` = every inequality mentions at least one variable (what the parser and the `PolyhedralTerm` constructor
produce from a constraint with a variable in it).  Only `le_no_pairwise` uses it (`refines` answers `False` without
looking when its left side has no row); in `intersect_no_empty`, `merge_compound_no_empty` and `disjoint_check` it is an
idle hypothesis, since `is_polytope_empty` answers a matrix without columns by the signs of the constants
(`disjoint_check_improper_repaired`).
-/
namespace Pacti.C17
open Poly Compound

/-- When the behaviour assigns every variable of every alternative, the nested list contains it exactly when
    at least one alternative does (boundary points included). -/
theorem nested_contains (n : Nested) (b : List (Var × Rat))
    (hcov : ∀ l ∈ n, ∀ x ∈ l.vars, x ∈ b.map (·.1)) :
    containsB n b = .ok true ↔ ∃ l ∈ n, TL.holds l (valOf b) := by
  obtain ⟨c, e, hc⟩ := containsB_cov n b hcov
  rw [e, ← hc, Except.ok.injEq]

/-- …and it is reported not contained (no error) exactly when no alternative does. -/
theorem nested_contains_false (n : Nested) (b : List (Var × Rat))
    (hcov : ∀ l ∈ n, ∀ x ∈ l.vars, x ∈ b.map (·.1)) :
    containsB n b = .ok false ↔ ∀ l ∈ n, ¬ TL.holds l (valOf b) := by
  obtain ⟨c, e, hc⟩ := containsB_cov n b hcov
  rw [e, Except.ok.injEq, ← Bool.not_eq_true, hc]
  simp only [not_exists, not_and]

/-- The only error is `ValueError`, and it comes from an alternative with an unassigned variable all of whose
    predecessors answered `False`. -/
theorem nested_contains_error (n : Nested) (b : List (Var × Rat)) (e : Err) (h : containsB n b = .error e) :
    e = .valueError ∧ ∃ pre l post, n = pre ++ l :: post ∧ (∃ x ∈ l.vars, x ∉ b.map (·.1)) ∧
      ∀ l' ∈ pre, containsBehavior l' b = .ok false := by
  fun_induction containsB n b
  case case1 => cases h
  case case2 tl rest b hc =>
    -- this alternative raises: it has an unassigned variable
    cases h
    exact ⟨rfl, [], tl, rest, rfl, ((containsBehavior_error tl b).mp hc).2, nofun⟩
  case case3 tl _ b _ hne hc => exact (hne ((containsBehavior_error tl b).mp hc).1).elim
  case case4 => cases h
  case case5 tl _ b hc ih =>
    -- `False`: the error comes from a later alternative
    obtain ⟨he, pre, l, post, hn, hx, hpre⟩ := ih h
    exact ⟨he, tl :: pre, l, post, by rw [hn]; rfl, hx, List.forall_mem_cons.mpr ⟨hc, hpre⟩⟩

/-- The code's order dependence, kept in the model: an unassigned variable in the *first* alternative raises
    whatever the later alternatives say. -/
theorem nested_contains_error_first (tl : TL) (rest : Nested) (b : List (Var × Rat))
    (hx : ∃ x ∈ tl.vars, x ∉ b.map (·.1)) : containsB (tl :: rest) b = .error .valueError := by
  rw [containsB_cons, (containsBehavior_error tl b).mpr ⟨rfl, hx⟩]

/-- The union of the alternatives of `intersect` is exactly the intersection of the operands' unions
    (whatever `force_empty_intersection` is, whenever a result is returned). -/
theorem intersect_sem (O : Oracle) (hO : O.Certified) (n₁ n₂ : Nested) (f : Bool) (n : Nested)
    (h : intersect O n₁ n₂ f = .ok n) :
    ∀ v, (∃ l ∈ n, TL.holds l v) ↔ (∃ l ∈ n₁, TL.holds l v) ∧ (∃ l ∈ n₂, TL.holds l v) := by
  intro v
  have hm := intersect_mem O hO h
  constructor
  · rintro ⟨l, hl, hv⟩
    obtain ⟨s, hs, o, ho, rfl, _⟩ := (hm l).mp hl
    rw [TL.holds_union] at hv
    exact ⟨⟨s, hs, hv.1⟩, o, ho, hv.2⟩
  · rintro ⟨⟨s, hs, hsv⟩, o, ho, hov⟩
    exact ⟨_, (hm _).mpr ⟨s, hs, o, ho, rfl, v, hsv, hov⟩, TL.holds_union.mpr ⟨hsv, hov⟩⟩

/-- Empty alternatives are discarded: every alternative of the result is satisfiable (the `Proper` hypotheses are
    idle). -/
theorem intersect_no_empty (O : Oracle) (hO : O.Certified) (n₁ n₂ : Nested) (f : Bool) (n : Nested)
    (hp₁ : ∀ l ∈ n₁, l.Proper) (hp₂ : ∀ l ∈ n₂, l.Proper)
    (h : intersect O n₁ n₂ f = .ok n) : ∀ l ∈ n, ∃ v, TL.holds l v := by
  intro l hl
  obtain ⟨s, _, o, _, rfl, v, hv⟩ := (intersect_mem O hO h l).mp hl
  exact ⟨v, TL.holds_union.mpr hv⟩

/-- Shape of the result: every alternative is `s | o` for a pair of operand alternatives, and no pair that
    shares a behaviour is dropped. -/
theorem intersect_alternatives (O : Oracle) (hO : O.Certified) (n₁ n₂ : Nested) (f : Bool) (n : Nested)
    (h : intersect O n₁ n₂ f = .ok n) :
    (∀ l ∈ n, ∃ s ∈ n₁, ∃ o ∈ n₂, l = tlUnion s o) ∧
    (∀ s ∈ n₁, ∀ o ∈ n₂, (∃ v, TL.holds s v ∧ TL.holds o v) → tlUnion s o ∈ n) := by
  have hm := intersect_mem O hO h
  refine ⟨fun l hl => ?_, fun s hs o ho hsat => (hm _).mpr ⟨s, hs, o, ho, rfl, hsat⟩⟩
  obtain ⟨s, hs, o, ho, e, _⟩ := (hm l).mp hl
  exact ⟨s, hs, o, ho, e⟩

/-- With `force_empty_intersection = True` a returned result has pairwise disjoint alternatives. -/
theorem intersect_forced_disjoint (O : Oracle) (hO : O.Certified) (n₁ n₂ n : Nested)
    (h : intersect O n₁ n₂ true = .ok n) : n.Pairwise TL.Disj :=
  checkDisjoint_ok O hO (mkNested_true_ok O (intersect_ok O h).2).2

/-- `True` only if the left union is contained in the right union (no side condition). -/
theorem le_sound (O : Oracle) (hO : O.Certified) (n₁ n₂ : Nested) (h : le O n₁ n₂ = .ok .yes) :
    ∀ v, (∃ l ∈ n₁, TL.holds l v) → (∃ l ∈ n₂, TL.holds l v) := by
  rintro v ⟨l, hl, hv⟩
  obtain ⟨r, hr, href⟩ := (le_ok O h).1 rfl l hl
  exact ⟨r, hr, refinesTL_yes O hO l r href v hv⟩

/-- What a definite `False` means: some left alternative is contained in *no single* right alternative (it may
    still be covered by the union of several — the property allows `False` there). -/
theorem le_no_pairwise (O : Oracle) (hO : O.Certified) (n₁ n₂ : Nested)
    (hp₁ : ∀ l ∈ n₁, l.Proper) (hp₂ : ∀ l ∈ n₂, l.Proper) (h : le O n₁ n₂ = .ok .no) :
    ∃ l ∈ n₁, ∀ r ∈ n₂, ∃ v, TL.holds l v ∧ ¬ TL.holds r v := by
  obtain ⟨l, hl, hall⟩ := (le_ok O h).2 rfl
  exact ⟨l, hl, fun r hr => (refinesTL_ok O hO l r .no (hall r hr)).2 nofun (Or.inr (hp₁ l hl)) fun _ => hp₂ r hr⟩

/-- A list of alternatives accepted with `force_empty_intersection = True` is returned unchanged and is pairwise
    disjoint (no side condition). -/
theorem disjoint_accept (O : Oracle) (hO : O.Certified) (l : List TL) (n : Nested)
    (h : mkNested O l true = .ok n) : n = l ∧ l.Pairwise TL.Disj := by
  obtain ⟨rfl, hd⟩ := mkNested_true_ok O h
  exact ⟨rfl, checkDisjoint_ok O hO hd⟩

/-- `ValueError` only if two alternatives share a behaviour. -/
theorem disjoint_check_only_if (O : Oracle) (hO : O.Certified) (l : List TL)
    (h : mkNested O l true = .error .valueError) :
    ∃ (i j : Nat) (hi : i < l.length) (hj : j < l.length), i < j ∧ ∃ v, TL.holds l[i] v ∧ TL.holds l[j] v := by
  rw [mkNested_true_error] at h
  rcases checkDisjoint_cases O hO l with ⟨e, _⟩ | ⟨_, hp⟩ | ⟨e, _⟩
  · rw [e] at h
    cases h
  · exact (not_pairwise_disj_iff l).mp hp
  · rw [e] at h
    cases h

/-- Two alternatives sharing a behaviour are never accepted (no side condition): the constructor raises. -/
theorem disjoint_check_if (O : Oracle) (hO : O.Certified) (l : List TL)
    (h : ∃ (i j : Nat) (hi : i < l.length) (hj : j < l.length), i < j ∧ ∃ v, TL.holds l[i] v ∧ TL.holds l[j] v) :
    ∀ n, mkNested O l true ≠ .ok n :=
  fun n hn => (not_pairwise_disj_iff l).mpr h (disjoint_accept O hO l n hn).2

/-- Overlapping alternatives are rejected with `ValueError` exactly when two of them share a behaviour.
    Side condition `hns`: the LP engine decides the emptiness problems it is given (status 0/2/3); otherwise the code
    raises its "Cannot decide emptiness" instead.  Properness is an idle side condition: an alternative with *no rows*
    denotes the whole space, `is_empty` answers `False` on it (`len(a) == 0`), and it does share a behaviour with every
    satisfiable alternative; rows without variables are decided by the signs of their constants
    (`disjoint_check_improper_repaired`). -/
theorem disjoint_check (O : Oracle) (hO : O.Certified) (l : List TL) (hp : ∀ a ∈ l, a.Proper)
    (hns : ∀ a ∈ l, ∀ b ∈ l, O.lp [] (tlUnion a b) ≠ .stuck) :
    mkNested O l true = .error .valueError ↔
      ∃ (i j : Nat) (hi : i < l.length) (hj : j < l.length), i < j ∧ ∃ v, TL.holds l[i] v ∧ TL.holds l[j] v := by
  rw [mkNested_true_error, ← not_pairwise_disj_iff]
  rcases checkDisjoint_cases O hO l with ⟨e, hp⟩ | ⟨e, hp⟩ | ⟨_, a, ha, b, hb, hs⟩
  · rw [e]; exact iff_of_false nofun (not_not.mpr hp)
  · rw [e]
    exact iff_of_true rfl hp
  · exact absurd hs (hns a ha b hb)

/-- Two copies of the unsatisfiable row `0 ≤ -1` share no behaviour and are accepted.  (With the pinned
    `is_polytope_empty`, which answers "not empty" for every matrix without columns, the constructor raises on this
    pair: `Gen.emptyNoColsBySign`.) -/
theorem disjoint_check_improper_repaired (O : Oracle) :
    mkNested O [[⟨[], -1⟩], [⟨[], -1⟩]] true = .ok [[⟨[], -1⟩], [⟨[], -1⟩]] ∧
    ¬ ∃ v, TL.holds [(⟨[], -1⟩ : PTerm)] v ∧ TL.holds [(⟨[], -1⟩ : PTerm)] v := by
  constructor
  · rfl   -- evaluates `is_empty` on rows without variables (`Gen.emptyNoColsBySign`)
  · rintro ⟨v, h, _⟩
    have := h ⟨[], -1⟩ (by simp)
    simp only [PTerm.holds, evalL] at this
    exact absurd this (by decide)

/-- A compound contract that the constructor accepts is stored unchanged, has disjoint assumption alternatives
    and a well-formed interface. -/
theorem compound_wf (O : Oracle) (hO : O.Certified) (a g : Nested) (ins outs : List Var) (r : CContract)
    (h : mkCompound O a g ins outs = .ok r) :
    r = ⟨a, g, ins, outs⟩ ∧ a.Pairwise TL.Disj ∧ ins.Nodup ∧ outs.Nodup ∧ (∀ x ∈ ins, x ∉ outs) ∧
    (∀ x ∈ a.vars, x ∈ ins) ∧ (∀ x ∈ g.vars, x ∈ ins ∨ x ∈ outs) := by
  obtain ⟨hr, hd, hiface⟩ := mkCompound_ok O h
  exact ⟨hr, checkDisjoint_ok O hO hd, hiface⟩

/-- Merging two compound contracts: the assumptions' union is exactly the intersection of the operands'
    assumption unions, the same for the guarantees; the interface is the union of the interfaces; the resulting
    assumption alternatives are pairwise disjoint. -/
theorem merge_compound_sem (O : Oracle) (hO : O.Certified) (c d r : CContract)
    (h : mergeCompound O c d = .ok r) :
    (∀ v, (∃ l ∈ r.a, TL.holds l v) ↔ (∃ l ∈ c.a, TL.holds l v) ∧ (∃ l ∈ d.a, TL.holds l v)) ∧
    (∀ v, (∃ l ∈ r.g, TL.holds l v) ↔ (∃ l ∈ c.g, TL.holds l v) ∧ (∃ l ∈ d.g, TL.holds l v)) ∧
    r.ins = Gen.list_union c.ins d.ins ∧ r.outs = Gen.list_union c.outs d.outs ∧
    r.a.Pairwise TL.Disj := by
  obtain ⟨a, g, ha, hg, hr⟩ := mergeCompound_ok O h
  obtain ⟨rfl, hdis, _⟩ := compound_wf O hO a g _ _ r hr
  exact ⟨intersect_sem O hO c.a d.a true a ha, intersect_sem O hO c.g d.g false g hg, rfl, rfl, hdis⟩

/-- Empty alternatives are discarded by `merge` too (the `Proper` hypotheses are idle). -/
theorem merge_compound_no_empty (O : Oracle) (hO : O.Certified) (c d r : CContract)
    (hpc : (∀ l ∈ c.a, l.Proper) ∧ (∀ l ∈ c.g, l.Proper)) (hpd : (∀ l ∈ d.a, l.Proper) ∧ (∀ l ∈ d.g, l.Proper))
    (h : mergeCompound O c d = .ok r) :
    (∀ l ∈ r.a, ∃ v, TL.holds l v) ∧ (∀ l ∈ r.g, ∃ v, TL.holds l v) := by
  obtain ⟨a, g, ha, hg, hr⟩ := mergeCompound_ok O h
  obtain ⟨rfl, _⟩ := compound_wf O hO a g _ _ r hr
  exact ⟨intersect_no_empty O hO c.a d.a true a hpc.1 hpd.1 ha, intersect_no_empty O hO c.g d.g false g hpc.2 hpd.2 hg⟩

/-- the oracle class is inhabited by the driver's oracle, whatever solver it wraps -/
theorem driver_oracle_certified (solver : Lin → TL → LPAns) : (checkedOracle solver).Certified :=
  checkedOracle_certified solver

/-! ### non-vacuity: concrete inputs (variable 1 = `a`), oracles with canned certificates -/

/-- `a ≤ 0` and `a ≥ 1` are disjoint (Farkas multipliers `1, 1`): accepted -/
example : mkNested (checkedOracle fun _ _ => .infeasible [1, 1]) [[⟨[(1, 1)], 0⟩], [⟨[(1, -1)], -1⟩]] true
    = .ok [[⟨[(1, 1)], 0⟩], [⟨[(1, -1)], -1⟩]] := by decide +kernel
/-- `a ≤ 0` and `a ≥ 0` touch in `a = 0`: refused -/
example : mkNested (checkedOracle fun _ _ => .optimal 0 [(1, 0)] [0, 0]) [[⟨[(1, 1)], 0⟩], [⟨[(1, -1)], 0⟩]] true
    = .error .valueError := by decide +kernel
/-- the touching pair intersects in one non-empty alternative; the disjoint pair in none -/
example : intersect (checkedOracle fun _ _ => .optimal 0 [(1, 0)] [0, 0]) [[⟨[(1, 1)], 0⟩]] [[⟨[(1, -1)], 0⟩]] false
    = .ok [[⟨[(1, 1)], 0⟩, ⟨[(1, -1)], 0⟩]] := by decide +kernel
example : intersect (checkedOracle fun _ _ => .infeasible [1, 1]) [[⟨[(1, 1)], 0⟩]] [[⟨[(1, -1)], -1⟩]] true
    = .ok [] := by decide +kernel
example : containsB [[⟨[(1, 1)], 0⟩], [⟨[(1, -1)], -1⟩]] [(1, 1)] = .ok true := by decide +kernel
example : containsB [[⟨[(1, 1)], 0⟩], [⟨[(1, -1)], -1⟩]] [(1, 1 / 2)] = .ok false := by decide +kernel
example : containsB [[⟨[(2, 1)], 0⟩], [⟨[(1, -1)], -1⟩]] [(1, 1)] = .error .valueError := by decide +kernel
/-- `[] ≤ n` and `n ≤ [[]]` are `True` without any LP -/
example (O : Oracle) : le O [] [[⟨[(1, 1)], 0⟩]] = .ok .yes := rfl
example (O : Oracle) : le O [[⟨[(1, 1)], 0⟩]] [[]] = .ok .yes := rfl

end Pacti.C17
