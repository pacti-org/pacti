import Pacti.Proofs.Eq
/-!
# C19 — equality, hashing and copying of terms, lists and contracts are coherent

`N` is any number type with the four operations the code applies to numbers (`eqN` = `np.equal`, `strN` = `str`,
`isZero` = the constructor's `value != 0` test, `strZ` = `str(· + 0.0)`).  `NodupKeys` is the Python dict invariant (no repeated key), `NoZero` the
constructor's invariant (no zero coefficient stored).  `nm` prints a variable, `H` are the interpreter's hash
functions: both arbitrary.  `Contract.eq` / `Compound.eq` are the equalities *as written in the source*: whether they
compare the output lists is the generated constant `Gen.eqComparesOutputs` / `Gen.eqCompoundComparesOutputs`
(read off the AST of `__eq__` by `tools/py2lean.py` on every run).  Theorems that are true only of a source that does
compare them carry that constant `= true` as a hypothesis; the `_pinned` theorems carry `= false` and exhibit the
defect on a concrete witness.  `contract_eq_spec` is unconditional.
-/
namespace Pacti.C19
open EqModel

variable {N : Type} [NumOps N]

/-- `PolyhedralTerm.__eq__` is reflexive, symmetric and transitive whenever `np.equal` is an equivalence on the numbers
    (all finite doubles; not NaN). -/
theorem term_eq_equiv (he : NumOps.IsEquiv N) (s t u : Term N) (hs : s.NodupKeys) (ht : t.NodupKeys) :
    Term.eq s s = true ∧ (Term.eq s t = true → Term.eq t s = true) ∧
      (Term.eq s t = true → Term.eq t u = true → Term.eq s u = true) :=
  ⟨Term.eq_refl he.refl hs, Term.eq_symm he.symm ht, Term.eq_trans he.trans⟩

/-- the same for `TermList.__eq__` (ordered list equality of terms) -/
theorem tl_eq_equiv (he : NumOps.IsEquiv N) (l m n : TList N) (hl : l.NodupKeys) (hm : m.NodupKeys) :
    TList.eq l l = true ∧ (TList.eq l m = true → TList.eq m l = true) ∧
      (TList.eq l m = true → TList.eq m n = true → TList.eq l n = true) :=
  ⟨TList.eq_refl he.refl hl, TList.eq_symm he.symm hm, TList.eq_trans he.trans⟩

/-- Unconditional description of `IoContract.__eq__` as it is written in the current source. -/
theorem contract_eq_spec (c c' : Contract N) :
    Contract.eq c c' = true ↔ c.ins = c'.ins ∧ (Gen.eqComparesOutputs = true → c.outs = c'.outs) ∧
      TList.eq c.a c'.a = true ∧ TList.eq c.g c'.g = true := by
  unfold Contract.eq Contract.eqWith
  cases Gen.eqComparesOutputs <;> simp [and_assoc]

/-- `IoContract.__eq__` is reflexive, symmetric and transitive under the same hypothesis, whichever way the output
    lists are treated (also for the pinned source, which ignores them on both sides). -/
theorem contract_eq_equiv (he : NumOps.IsEquiv N) (c d e : Contract N) (hc : c.a.NodupKeys ∧ c.g.NodupKeys)
    (hd : d.a.NodupKeys ∧ d.g.NodupKeys) :
    Contract.eq c c = true ∧ (Contract.eq c d = true → Contract.eq d c = true) ∧
      (Contract.eq c d = true → Contract.eq d e = true → Contract.eq c e = true) := by
  refine ⟨(contract_eq_spec c c).mpr
    ⟨rfl, fun _ => rfl, TList.eq_refl he.refl hc.1, TList.eq_refl he.refl hc.2⟩, ?_, ?_⟩
  · rw [contract_eq_spec, contract_eq_spec]
    rintro ⟨h1, h2, h3, h4⟩
    exact ⟨h1.symm, fun h => (h2 h).symm, TList.eq_symm he.symm hd.1 h3, TList.eq_symm he.symm hd.2 h4⟩
  · rw [contract_eq_spec, contract_eq_spec, contract_eq_spec]
    rintro ⟨h1, h2, h3, h4⟩ ⟨k1, k2, k3, k4⟩
    exact ⟨h1.trans k1, fun h => (h2 h).trans (k2 h), TList.eq_trans he.trans h3 k3, TList.eq_trans he.trans h4 k4⟩

/-- If equal numbers print equally (`NumOps.Coherent`), equal terms have equal hashes — for every hash function. -/
theorem term_eq_hash {Hc : Type} (hc : NumOps.Coherent N) (nm : V → String) (H : Hashers Hc) (s t : Term N)
    (hs : s.NodupKeys) (ht : t.NodupKeys) (h : Term.eq s t = true) : Term.hash nm H s = Term.hash nm H t := by
  unfold Term.hash
  rw [Term.str_eq_of_eq hc nm hs ht h]

/-- likewise for term lists (`hash(tuple(terms))`) -/
theorem tl_eq_hash {Hc : Type} (hc : NumOps.Coherent N) (nm : V → String) (H : Hashers Hc) (l m : TList N)
    (hl : l.NodupKeys) (hm : m.NodupKeys) (h : TList.eq l m = true) : TList.hash nm H l = TList.hash nm H m :=
  TList.hash_eq_of_eq nm H (fun s hs t ht => Term.str_eq_of_eq hc nm (hl s hs) (hm t ht)) h

/-- IEEE doubles satisfy only part of the coherence law (`NumOps.CoherentIEEE`: non-zero numbers, and constants printed
    through `+ 0.0`).  For such numbers equal *constructed* terms (no zero coefficient stored) have equal hashes provided
    the source prints the constant as `str(self.constant + 0.0)` (`Gen.strConstPlusZero = true`; false on the pinned
    source, where `ieee_term_witness_pinned` applies instead). -/
theorem term_eq_hash_ieee {Hc : Type} (hstr : Gen.strConstPlusZero = true) (hc : NumOps.CoherentIEEE N) (nm : V → String)
    (H : Hashers Hc) (s t : Term N) (hs : s.NodupKeys) (ht : t.NodupKeys) (hz : s.NoZero) (h : Term.eq s t = true) :
    Term.hash nm H s = Term.hash nm H t := by
  unfold Term.hash
  rw [Term.str_eq_of_eq_ieee hstr hc nm hs ht hz h]

/-- The same for lists of constructed terms. -/
theorem tl_eq_hash_ieee {Hc : Type} (hstr : Gen.strConstPlusZero = true) (hc : NumOps.CoherentIEEE N) (nm : V → String)
    (H : Hashers Hc) (l m : TList N) (hl : l.NodupKeys) (hm : m.NodupKeys) (hz : l.NoZero) (h : TList.eq l m = true) :
    TList.hash nm H l = TList.hash nm H m :=
  TList.hash_eq_of_eq nm H (fun s hs t ht => Term.str_eq_of_eq_ieee hstr hc nm (hl s hs) (hm t ht) (hz s hs)) h

/-- the driver's model of finite doubles (exact value + sign bit of zero, injective printer) satisfies that part -/
theorem fnum_coherent_ieee : NumOps.CoherentIEEE FNum := by
  constructor
  · intro a b h hz
    simp only [eqN, beq_iff_eq] at h
    simp only [isZero, beq_eq_false_iff_ne, ne_eq] at hz
    have hb : ¬ b.q = 0 := h ▸ hz
    simp [strN, hb, h]
  · intro a b h
    simp only [eqN, beq_iff_eq] at h
    simp [strZ, h]

/-- Equal contracts have equal hashes — true only of a source whose `__eq__` compares the output lists, because the
    hash covers them. -/
theorem contract_eq_hash {Hc : Type} (hout : Gen.eqComparesOutputs = true) (hc : NumOps.Coherent N) (nm : V → String)
    (H : Hashers Hc) (c d : Contract N) (hcw : c.a.NodupKeys ∧ c.g.NodupKeys) (hdw : d.a.NodupKeys ∧ d.g.NodupKeys)
    (h : Contract.eq c d = true) : Contract.hash nm H c = Contract.hash nm H d := by
  obtain ⟨h1, h2, h3, h4⟩ := (contract_eq_spec c d).mp h
  unfold Contract.hash
  rw [h1, h2 hout, tl_eq_hash hc nm H c.a d.a hcw.1 hdw.1 h3, tl_eq_hash hc nm H c.g d.g hcw.2 hdw.2 h4]

/-- A copy of a constructed term / term list equals its original and hashes equally (the copy is in fact the same
    dict and constant; only reflexivity of `np.equal` is needed for `==`). -/
theorem copy_eq {Hc : Type} (hr : ∀ a : N, eqN a a = true) (nm : V → String) (H : Hashers Hc)
    (t : Term N) (ht : t.NodupKeys) (hz : t.NoZero) (l : TList N) (hl : l.NodupKeys) (hlz : l.NoZero) :
    (Term.eq t t.copy = true ∧ Term.eq t.copy t = true ∧ Term.hash nm H t.copy = Term.hash nm H t) ∧
      (TList.eq l l.copy = true ∧ TList.eq l.copy l = true ∧ TList.hash nm H l.copy = TList.hash nm H l) := by
  rw [Term.copy_eq_self hz, TList.copy_eq_self hlz]
  exact ⟨⟨Term.eq_refl hr ht, Term.eq_refl hr ht, rfl⟩, ⟨TList.eq_refl hr hl, TList.eq_refl hr hl, rfl⟩⟩

/-- A copy of a contract equals its original and hashes equally when re-simplifying its guarantees under its
    assumptions returns them unchanged (`hsimp`; true of a contract built with the default simplification up to
    float round-off — the harness asserts it on small-integer / dyadic data). -/
theorem contract_copy_eq {Hc : Type} (hr : ∀ a : N, eqN a a = true) (nm : V → String) (H : Hashers Hc)
    (simp : TList N → TList N → TList N) (c : Contract N) (hc : c.a.NodupKeys ∧ c.g.NodupKeys)
    (hz : c.a.NoZero ∧ c.g.NoZero) (hsimp : simp c.g c.a = c.g) :
    Contract.eq c (c.copyWith simp) = true ∧ Contract.eq (c.copyWith simp) c = true ∧
      Contract.hash nm H (c.copyWith simp) = Contract.hash nm H c := by
  have hcopy : c.copyWith simp = c := by
    unfold Contract.copyWith
    simp only [TList.copy_eq_self hz.1, TList.copy_eq_self hz.2, hsimp]
  rw [hcopy]
  have : Contract.eq c c = true :=
    (contract_eq_spec c c).mpr ⟨rfl, fun _ => rfl, TList.eq_refl hr hc.1, TList.eq_refl hr hc.2⟩
  exact ⟨this, this, rfl⟩

/-- the constructor establishes the invariants the theorems above assume -/
theorem mk_wf (l : List (V × N)) (k : N) (h : (l.map (·.1)).Nodup) : (Term.mk' l k).NodupKeys ∧ (Term.mk' l k).NoZero :=
  ⟨Term.mk'_nodupKeys l k h, Term.mk'_noZero l k⟩

/-- Two contracts are equal exactly when their input lists, output lists, assumptions and guarantees are all equal.
    FULL STATEMENT of the property; it is true only of a source whose `__eq__` compares the output lists
    (`Gen.eqComparesOutputs = true`).  On the pinned source the hypothesis is false and
    `contract_eq_ignores_outputs_pinned` applies instead. -/
theorem contract_eq_iff (hout : Gen.eqComparesOutputs = true) (c c' : Contract N) :
    Contract.eq c c' = true ↔ c.ins = c'.ins ∧ c.outs = c'.outs ∧ TList.eq c.a c'.a = true ∧ TList.eq c.g c'.g = true := by
  rw [contract_eq_spec, hout]
  simp

/-- hence contracts differing in any one of the four fields compare unequal -/
theorem contract_neq_of_field (hout : Gen.eqComparesOutputs = true) (c c' : Contract N)
    (h : c.ins ≠ c'.ins ∨ c.outs ≠ c'.outs ∨ TList.eq c.a c'.a = false ∨ TList.eq c.g c'.g = false) :
    Contract.eq c c' = false := by
  cases he : Contract.eq c c' with
  | false => rfl
  | true =>
    obtain ⟨h1, h2, h3, h4⟩ := (contract_eq_iff hout c c').mp he
    rcases h with h | h | h | h
    · exact absurd h1 h
    · exact absurd h2 h
    · rw [h3] at h
      cases h
    · rw [h4] at h
      cases h

/-- the contract `in [x] out [y] : ⊤ ⊢ -x + y ≤ 0` and the same with outputs `[y, z]` -/
def witC : Contract FNum := ⟨[1], [2], [], [⟨[(1, ⟨-1, false⟩), (2, ⟨1, false⟩)], ⟨0, false⟩⟩]⟩
def witC' : Contract FNum := ⟨[1], [2, 3], [], [⟨[(1, ⟨-1, false⟩), (2, ⟨1, false⟩)], ⟨0, false⟩⟩]⟩

/-- COUNTEREXAMPLE to `contract_eq_iff` for a source that does not compare the output lists (the pinned
    `self.outputvars == self.outputvars`): two contracts with different output lists compare equal. -/
theorem contract_eq_ignores_outputs_pinned (hout : Gen.eqComparesOutputs = false) :
    Contract.eq witC witC' = true ∧ witC.outs ≠ witC'.outs := by
  unfold Contract.eq
  rw [hout]
  decide +kernel

/-- the two conditional theorems cover every source the translator accepts -/
theorem contract_eq_cases : Gen.eqComparesOutputs = true ∨ Gen.eqComparesOutputs = false :=
  Bool.eq_false_or_eq_true _

/-! ## compound contracts (`IoContractCompound.__eq__`; `le` = refinement of term lists, any relation) -/

/-- Unconditional description of `IoContractCompound.__eq__` as it is written in the current source. -/
theorem compound_eq_spec {L : Type} (le : L → L → Bool) (c c' : Compound L) :
    Compound.eq le c c' = true ↔ c.ins = c'.ins ∧ (Gen.eqCompoundComparesOutputs = true → c.outs = c'.outs) ∧
      NTL.eq le c.a c'.a = true ∧ NTL.eq le c.g c'.g = true := by
  unfold Compound.eq Compound.eqWith
  cases Gen.eqCompoundComparesOutputs <;> simp [and_assoc]

/-- FULL STATEMENT for compound contracts; see `contract_eq_iff`. -/
theorem compound_eq_iff {L : Type} (hout : Gen.eqCompoundComparesOutputs = true) (le : L → L → Bool) (c c' : Compound L) :
    Compound.eq le c c' = true ↔ c.ins = c'.ins ∧ c.outs = c'.outs ∧ NTL.eq le c.a c'.a = true ∧ NTL.eq le c.g c'.g = true := by
  rw [compound_eq_spec, hout]
  simp

/-- COUNTEREXAMPLE to `compound_eq_iff` for a source that does not compare the output lists. -/
theorem compound_eq_ignores_outputs_pinned (hout : Gen.eqCompoundComparesOutputs = false) :
    Compound.eq (fun (_ _ : Unit) => true) ⟨[1], [2], [()], [()]⟩ ⟨[1], [2, 3], [()], [()]⟩ = true := by
  unfold Compound.eq
  rw [hout]
  decide

/-- `NestedTermList.__eq__` (`self <= other <= self`) and hence compound equality is symmetric by construction, and
    transitive / reflexive when refinement is. -/
theorem compound_eq_equiv {L : Type} (le : L → L → Bool) (hr : ∀ x, le x x = true)
    (ht : ∀ x y z, le x y = true → le y z = true → le x z = true) (c d e : Compound L) :
    Compound.eq le c c = true ∧ (Compound.eq le c d = true → Compound.eq le d c = true) ∧
      (Compound.eq le c d = true → Compound.eq le d e = true → Compound.eq le c e = true) := by
  refine ⟨(compound_eq_spec le c c).mpr ⟨rfl, fun _ => rfl, NTL.eq_refl hr _, NTL.eq_refl hr _⟩, ?_, ?_⟩
  · rw [compound_eq_spec, compound_eq_spec]
    rintro ⟨h1, h2, h3, h4⟩
    exact ⟨h1.symm, fun h => (h2 h).symm, NTL.eq_symm h3, NTL.eq_symm h4⟩
  · rw [compound_eq_spec, compound_eq_spec, compound_eq_spec]
    rintro ⟨h1, h2, h3, h4⟩ ⟨k1, k2, k3, k4⟩
    exact ⟨h1.trans k1, fun h => (h2 h).trans (k2 h), NTL.eq_trans ht h3 k3, NTL.eq_trans ht h4 k4⟩

/-- The two IEEE zeros are `np.equal` but print differently: the coherence law of `term_eq_hash` fails for doubles. -/
theorem ieee_not_coherent : ¬ NumOps.Coherent SignedZero := by
  intro h
  have := (h .pos .neg rfl).1
  revert this
  decide

/-- exact rationals are coherent (for doubles see `fnum_coherent_ieee`): the hypothesis of `term_eq_hash` is satisfiable -/
theorem rat_coherent : NumOps.Coherent Rat := by
  intro a b h
  rw [eqN_rat_iff.mp h]
  exact ⟨rfl, rfl⟩

/-- …and `np.equal` on them is an equivalence: the hypothesis of `term_eq_equiv` is satisfiable -/
theorem rat_isEquiv : NumOps.IsEquiv Rat :=
  ⟨fun _ => eqN_rat_iff.mpr rfl, fun _ _ h => eqN_rat_iff.mpr (eqN_rat_iff.mp h).symm,
   fun _ _ _ h1 h2 => eqN_rat_iff.mpr ((eqN_rat_iff.mp h1).trans (eqN_rat_iff.mp h2))⟩

/-- COUNTEREXAMPLE to `term_eq_hash` for doubles on a source that prints `str(self.constant)`:
    `T({x:1}, 0.0)` and `T({x:1}, -0.0)` in the driver's number type are equal terms whose strings — hence, for the
    interpreter's (injective in practice) string hash, whose hashes — differ. -/
theorem ieee_term_witness_pinned (hstr : Gen.strConstPlusZero = false) :
    let s : Term FNum := ⟨[(1, ⟨1, false⟩)], ⟨0, false⟩⟩
    let t : Term FNum := ⟨[(1, ⟨1, false⟩)], ⟨0, true⟩⟩
    Term.eq s t = true ∧ Term.eq t s = true ∧ Term.str drvName s ≠ Term.str drvName t := by
  unfold Term.str
  rw [hstr]
  decide +kernel

/-- with the constant printed through `+ 0.0` the same two terms print (hence hash) alike -/
example :
    Term.strWith true drvName (⟨[(1, ⟨1, false⟩)], ⟨0, false⟩⟩ : Term FNum) =
      Term.strWith true drvName (⟨[(1, ⟨1, false⟩)], ⟨0, true⟩⟩ : Term FNum) := by decide +kernel

/-- the hypotheses of `term_eq_equiv`/`term_eq_hash` are met: two dicts with different insertion order -/
example : Term.eq (N := Rat) ⟨[(1, 2), (2, 3)], 4⟩ ⟨[(2, 3), (1, 2)], 4⟩ = true := by decide +kernel
example : Term.eq (N := Rat) ⟨[(1, 2), (2, 3)], 4⟩ ⟨[(2, 3), (1, 2)], 5⟩ = false := by decide +kernel
example : Term.strWith (N := Rat) false drvName ⟨[(1, 2), (2, 3)], 4⟩ = Term.strWith (N := Rat) false drvName ⟨[(2, 3), (1, 2)], 4⟩ := by
  decide +kernel
/-- term order matters for lists -/
example : TList.eq (N := Rat) [⟨[(1, 2)], 4⟩, ⟨[(2, 3)], 1⟩] [⟨[(2, 3)], 1⟩, ⟨[(1, 2)], 4⟩] = false := by decide +kernel
/-- `NoZero` is needed in `copy_eq`: a dict mutated to hold a zero coefficient is not equal to its copy -/
example : Term.eq (N := Rat) ⟨[(1, 0)], 0⟩ (Term.copy ⟨[(1, 0)], 0⟩) = false := by decide +kernel
/-- `eqWith true` separates the pinned witness -/
example : Contract.eqWith true witC witC' = false := by decide +kernel

end Pacti.C19
