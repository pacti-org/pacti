import Pacti.Model.Session
/-!
# C13 — operations are pure: operands unchanged, results independent of history  (specification level)

These theorems are the frame and determinism laws of the pure session machine `Session.step`; they hold by
construction and are stated so that the specification the implementation is checked against is explicit.  That the
Python objects REFINE this machine (no operand mutated, no aliasing between results and operands, equal calls give
equal results at any later point of a session and in a fresh interpreter) is established by the history
correspondence of `harness/props/c13.py`, not by these theorems: object identity is runtime behaviour a value model
cannot exhibit.  Hence the label *partial* in MANIFEST.
-/
namespace Pacti.C13
open Session

/-- no existing pool entry changes, whatever the operation (also for the harness' `scribble`) -/
theorem step_frame (E : Env) (p : Pool) (op : Op) : ∃ news, (step E p op).1 = p ++ news ∧ news.length ≤ 1 := by
  fun_cases step E p op
  case case1 c _ => exact ⟨[c], rfl, Nat.le_refl 1⟩
  case case2 => exact ⟨[], (List.append_nil p).symm, Nat.zero_le 1⟩

theorem run_prefix (E : Env) : ∀ (ops : List Op) (p : Pool), p <+: (run E p ops).1
  | [], _ => List.prefix_rfl
  | op :: ops, p =>
    have ⟨news, hn, _⟩ := step_frame E p op
    List.IsPrefix.trans ⟨news, hn.symm⟩ (run_prefix E ops _)

/-- entries are never modified later either: index `i` of the pool is stable along a whole history -/
theorem run_frame (E : Env) : ∀ (ops : List Op) (p : Pool) (i : Nat) (c : Contract PTerm), p[i]? = some c → (run E p ops).1[i]? = some c := by
  intro ops p i c h
  obtain ⟨t, ht⟩ := run_prefix E ops p
  rw [← ht, List.getElem?_append_left (List.getElem?_eq_some_iff.mp h).1, h]

theorem evalOp_congr (E : Env) {get get' : Nat → Option (Contract PTerm)} (op : Op)
    (h : ∀ i ∈ op.args, get i = get' i) : evalOp E get op = evalOp E get' op := by
  -- per operation: `h` at the indices `Op.args` lists is exactly what `evalOp` reads
  cases op <;> simp only [Op.args, List.forall_mem_cons, List.not_mem_nil, false_imp_iff, implies_true, and_true] at h <;>
    simp only [evalOp, h]

theorem step_snd (E : Env) (p : Pool) (op : Op) : (step E p op).2 = evalOp E (fun i => p[i]?) op := by
  fun_cases step E p op <;> rfl

/-- history independence: the output depends only on the values of the operands -/
theorem step_values (E : Env) (p p' : Pool) (op : Op) (h : ∀ i ∈ op.args, p[i]? = p'[i]?) : (step E p op).2 = (step E p' op).2 := by
  rw [step_snd, step_snd, evalOp_congr E op h]

/-- replaying a call later in the session, on a pool holding equal operand values, returns an equal result -/
theorem replay_later (E : Env) (p : Pool) (ops : List Op) (op : Op) (h : ∀ i ∈ op.args, i < p.length) :
    (step E (run E p ops).1 op).2 = (step E p op).2 := by
  apply step_values
  intro i hi
  have hlt := h i hi
  have : p[i]? = some p[i] := List.getElem?_eq_getElem hlt
  rw [this, run_frame E ops p i p[i] this]

end Pacti.C13
