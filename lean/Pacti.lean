import Pacti.Props.C01
import Pacti.Props.C02
import Pacti.Props.C03
import Pacti.Props.C04
import Pacti.Props.C05
import Pacti.Props.C06
import Pacti.Props.C07
import Pacti.Props.C07Ctor
import Pacti.Props.C08
import Pacti.Props.C09
import Pacti.Props.C09Full
import Pacti.Props.C09Parse
import Pacti.Props.C10
import Pacti.Props.C11
import Pacti.Props.C12
import Pacti.Props.C13
import Pacti.Props.C14
import Pacti.Props.C15
import Pacti.Props.C16
import Pacti.Props.C17
import Pacti.Props.C18
import Pacti.Props.C19
import Pacti.Props.NonVacuity
